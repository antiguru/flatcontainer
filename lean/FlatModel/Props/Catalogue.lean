import FlatModel.Proofs.FanOut
import FlatModel.Proofs.Collapse
import FlatModel.Proofs.Slice
import FlatModel.Proofs.Consec
import FlatModel.Proofs.Columns
import FlatModel.Proofs.Stack
/-! Every catalogued composition is covered by the laws: instance resolution finds `LawfulRegion`. -/
namespace FC
open Region


section DenseInstances
variable {R V I O : Type} [Region R V I] [IdxCont O I] [LawfulRegion R] [LawfulIdxCont O]

instance : LawfulDense (SliceRegion R O) where
  cursor_default := by simp [DenseRegion.cursor, Region.default, LawfulIdxCont.iter_default]
  cursor_clear r := by simp [DenseRegion.cursor, Region.clear, LawfulIdxCont.iter_clear]
  push_dense r r' v i _ hp := by
    obtain ⟨_, rfl⟩ := slice_push_some r r' v i hp
    rfl
end DenseInstances

instance {R : Type} [Region R (List UInt8) (Nat × Nat)] [DenseRegion R] [LawfulRegion R] [LawfulDense R] :
    LawfulDense (StringRegion R) where
  cursor_default := LawfulDense.cursor_default (R := R)
  cursor_clear r := LawfulDense.cursor_clear r.inner
  push_dense r r' v i hi hp := by
    simp only [Region.push, Option.map_eq_some_iff, Prod.mk.injEq] at hp
    obtain ⟨⟨r0, i0⟩, hp0, rfl, rfl⟩ := hp
    exact LawfulDense.push_dense r.inner r0 v i0 hi hp0

abbrev Str := StringRegion (OwnedRegion UInt8)
abbrev PairIdx := VecIdx (Nat × Nat) 16

-- the awkward nestings named by the properties
example : LawfulRegion Str := inferInstance
example : LawfulRegion (ConsecPairs Str IndexOptimized) := inferInstance
example : LawfulRegion (CollapseSequence (ConsecPairs Str IndexOptimized) Nat) := inferInstance
example : LawfulRegion (ColumnsRegion (CollapseSequence (ConsecPairs Str IndexOptimized) Nat) Nat IndexOptimized) :=
  inferInstance
example : LawfulRegion (SliceRegion (ConsecPairs Str IndexOptimized) IndexOptimized) := inferInstance
example : LawfulRegion (StringRegion (ConsecPairs (OwnedRegion UInt8) IndexList)) := inferInstance
example : LawfulRegion (SliceRegion (SliceRegion (SliceRegion (MirrorRegion Nat) (VecIdx Nat 1)) PairIdx) PairIdx) :=
  inferInstance
example : LawfulRegion (TupleCons (OptionRegion Str) (TupleCons (ResultRegion (OwnedRegion Nat) (MirrorRegion Nat)) TupleNil)) :=
  inferInstance
example : LawfulRegion (ConsecPairs (SliceRegion (CollapseSequence Str (Nat × Nat)) PairIdx) (VecIdx Nat 8)) :=
  inferInstance
example : LawfulRegion (CollapseSequence (SliceRegion Str PairIdx) (Nat × Nat)) := inferInstance
example : LawfulRegion (ColumnsRegion (VecRegion Nat) Nat (VecIdx Nat 8)) := inferInstance

end FC
