import FlatModel.Proofs.Codec
import FlatModel.Proofs.History
import FlatModel.Props.Catalogue
/-! C07: the dictionary codec region reads back what was pushed, after any history of pushes, clears
and merge generations; it refuses exactly the ambiguous literals.

The empty string: `WF` (ghost definition `Codec.Dict.WF` in Model/Codec.lean) has two
parts, `hit` (every dictionary hit `lookup s = some t` has `decode.get t = some s`, `s ≠ []`, `t < 256`)
and `stats` (the Misra-Gries summary never holds the empty string). `stats` is needed because an empty
heavy hitter is *not* harmless: `new_from` would give it a tag whose decode entry is `None`
(`BytesMap` treats empty entries as absent), and pushing `[]` would then read back as the one-byte tag
(`empty_heavy_hitter_breaks_roundtrip` below). `encode` never records `[]` (`if let Some(&tag) = bytes.first()`),
so `stats` is an invariant of every reachable dictionary; `wf_newFrom` assumes only `stats` of the sources,
nothing about their dictionaries, and `newFrom_hit_any` is the part that holds for arbitrary sources.

This file must stay clear of Proofs/MisraGries.lean and its Mathlib imports (see the head of Proofs/Codec.lean):
`all_sources_tagged` and `all_pushed_tagged` are stated with `List.sum`. What they need of the summary is in
Proofs/Codec.lean; the guarantee with compaction is Props/C07MG.lean. -/
namespace FC.C07
open FC FC.Codec

theorem wf_default : Dict.default.WF := Dict.wf_default

theorem newFrom_hit_any (srcs : List Dict) (s : Bytes) (t : Nat) (h : (Dict.newFrom srcs).lookup s = some t) :
    t < 256 ∧ (∃ c, (s, c) ∈ (mergedMG srcs).done) ∧ (s ≠ [] → (Dict.newFrom srcs).decode.get t = some s) :=
  Dict.newFrom_hit srcs h

theorem wf_newFrom (srcs : List Dict) (hs : ∀ s ∈ srcs, ∀ e ∈ s.mg.inner, e.1 ≠ []) : (Dict.newFrom srcs).WF :=
  Dict.wf_newFrom hs

theorem wf_newFrom_of_wf (srcs : List Dict) (hs : ∀ s ∈ srcs, s.WF) : (Dict.newFrom srcs).WF :=
  Dict.wf_newFrom fun s h => (hs s h).stats

/-- the hypothesis of `wf_newFrom` cannot be dropped: from a (non-reachable) source whose summary holds the
empty string, the merged dictionary maps `[]` to tag 0, stores it as `[0]`, and reads `[0]` back -/
theorem empty_heavy_hitter_breaks_roundtrip :
    (Dict.newFrom [demoBad]).lookup [] = some 0 ∧
    ((Dict.newFrom [demoBad]).encode' []).map (fun p => p.2.decodeBytes p.1) = some [0] := by
  set_option maxRecDepth 100000 in decide

theorem newFrom_stats (srcs : List Dict) : (Dict.newFrom srcs).mg = ⟨[]⟩ ∧ (Dict.newFrom srcs).seen = [] :=
  ⟨Dict.newFrom_mg srcs, by rw [Dict.newFrom_eq]⟩

theorem newFrom_decode_ok (srcs : List Dict) : (Dict.newFrom srcs).decode.Ok := by
  obtain ⟨acc, e, hinv⟩ := Dict.newFrom_inv srcs
  rw [e]
  exact hinv.ok

theorem decode_encode (d d' : Dict) (b stored : Bytes) (hw : d.WF) (h : d.encode' b = some (stored, d')) :
    d'.decodeBytes stored = b ∧ d'.decode = d.decode ∧ d'.encode = d.encode ∧ d'.WF := by
  obtain ⟨hs, rfl⟩ := Dict.encode'_some h
  refine ⟨?_, Dict.observe_decode d b, Dict.observe_encode d b, Dict.wf_observe hw b⟩
  rw [Dict.decodeBytes_congr (Dict.observe_decode d b)]
  exact Dict.decode_stored hw hs

theorem roundtrip (r r' : Codec.Region) (b : Bytes) (i : Nat × Nat) (hw : r.codec.WF)
    (hp : Region.push r b = some (r', i)) : Region.index r' i = some b :=
  Codec.Region.push_roundtrip hw hp

theorem frame (r r' : Codec.Region) (b : Bytes) (i j : Nat × Nat)
    (hp : Region.push r b = some (r', i)) (hj : j.1 ≤ j.2 ∧ j.2 ≤ r.inner.length) :
    Region.index r' j = Region.index r j ∧ ∃ u, Region.index r j = some u :=
  ⟨Codec.Region.push_frame hp hj, _, Codec.Region.index_eq_of_le hj⟩

/-- exact characterisation of refusal (the D7 assertion): only a literal whose first byte is a live
dictionary tag is refused -/
theorem refuses_ambiguous (r : Codec.Region) (b : Bytes) :
    Region.push r b = none ↔
      (r.codec.lookup b = none ∧ ∃ t rest, b = t :: rest ∧ (r.codec.decode.get t.toNat).isSome) := by
  -- with `FC` and `FC.Codec` both open, `Region.push r b` is the class method `FC.Region.push`; `show` turns it into the
  -- codec's own function, which the lemmas of Proofs/Codec.lean are about
  show Codec.Region.push r b = none ↔ _
  rw [Codec.Region.push_eq, Option.map_eq_none_iff, Dict.stored_none_iff]

theorem accepts_empty (r : Codec.Region) : (Region.push r ([] : Bytes)).isSome :=
  Option.isSome_iff_ne_none.2 fun h => by
    obtain ⟨_, t, rest, hb, _⟩ := (refuses_ambiguous r []).1 h
    cases hb

theorem accepts_hit (r : Codec.Region) (b : Bytes) (t : Nat) (hl : r.codec.lookup b = some t) :
    (Region.push r b).isSome := by
  show (Codec.Region.push ⟨r.inner, r.codec⟩ b).isSome
  rw [Codec.Region.push_hit hl]
  rfl

theorem accepts_all_default (inner : Bytes) (mg : MG) (seen : List Nat) (b : Bytes) :
    (Region.push (⟨inner, ⟨[], BytesMap.default, mg, seen⟩⟩ : Codec.Region) b).isSome :=
  Option.isSome_iff_ne_none.2 fun h => by
    obtain ⟨_, t, rest, _, hg⟩ := (refuses_ambiguous _ b).1 h
    rw [BytesMap.get_of_ge (by simp [BytesMap.default])] at hg
    cases hg

/-! non-vacuity on a concrete two-generation history (`demoGen1`, `demoGen2` in Proofs/Codec.lean):
"ab","ab","c" pushed, merged; then "ab","ab","de" pushed, merged again -/

example : (demoGen1.map fun r => (r.codec.lookup [97, 98], r.codec.lookup [99],
    (Codec.Region.push r [0, 5]).isSome, (Codec.Region.push r []).isSome)) = some (some 0, some 1, false, true) := by
  set_option maxRecDepth 100000 in decide
example : (demoGen2.map fun (r, i, j) => (i, j, r.inner)) = some ((0, 1), (2, 4), [0, 0, 100, 101]) := by
  set_option maxRecDepth 100000 in decide
example : (demoGen2.map fun (r, i, j) => (Codec.Region.index r i, Codec.Region.index r j)) =
    some (some [97, 98], some [100, 101]) := by
  set_option maxRecDepth 100000 in decide
/-- generation 2 re-derives the dictionary from the new statistics only -/
example : (demoGen2.map fun (r, _, _) =>
    let r' := Codec.Region.merge [r]
    (r'.codec.lookup [97, 98], r'.codec.lookup [100, 101], r'.codec.lookup [99])) = some (some 0, some 1, none) := by
  set_option maxRecDepth 100000 in decide

theorem reachable_wf (r : Codec.Region) (h : Codec.Reachable r) : r.codec.WF := h.wf

/-- after any chain of pushes, clears and merge generations: a successful push reads back, leaves the
earlier items alone, keeps the dictionary, and a refused push is an ambiguous literal -/
theorem generations (r : Codec.Region) (h : Codec.Reachable r) (b : Bytes) :
    (∀ r' i, Region.push r b = some (r', i) →
      Region.index r' i = some b ∧ Codec.Reachable r' ∧
      r'.codec.decode = r.codec.decode ∧ r'.codec.encode = r.codec.encode ∧
      ∀ j : Nat × Nat, j.1 ≤ j.2 ∧ j.2 ≤ r.inner.length → Region.index r' j = Region.index r j) ∧
    (Region.push r b = none →
      r.codec.lookup b = none ∧ ∃ t rest, b = t :: rest ∧ (r.codec.decode.get t.toNat).isSome) := by
  refine ⟨fun r' i hp => ⟨roundtrip r r' b i h.wf hp, h.push hp, ?_, ?_, fun j hj => (frame r r' b i j hp hj).1⟩,
    (refuses_ambiguous r b).1⟩
  · obtain ⟨s, _, rfl, _⟩ := Codec.Region.push_some hp
    exact Dict.observe_decode _ _
  · obtain ⟨s, _, rfl, _⟩ := Codec.Region.push_some hp
    exact Dict.observe_encode _ _

/-- in the vocabulary of the region laws: merging regions that satisfy the invariant yields one that does
(`Inv r` is `r.codec.WF`), so the generic history theorems C01/C02/C08 extend across merge generations -/
theorem merge_inv (rs : List Codec.Region) (h : ∀ r ∈ rs, Region.Inv r) :
    Region.Inv (RegionAux.mergeRegions rs : Codec.Region) :=
  Codec.Region.merge_wf h

theorem generations_batch (r : Codec.Region) (h : Codec.Reachable r) (bs : List Bytes) :
    ∀ (r' : Codec.Region) (is : List (Nat × Nat)),
      bs.foldl (fun (acc : Option (Codec.Region × List (Nat × Nat))) b =>
        acc.bind fun (q, is) => (Region.push q b).map fun (q', i) => (q', is ++ [i])) (some (r, [])) = some (r', is) →
      Codec.Reachable r' ∧ is.map (Region.index r') = bs.map some := by
  intro r' is hf
  rw [foldl_push_eq] at hf
  obtain ⟨q, hr, hq⟩ := Option.map_eq_some_iff.1 hf
  cases hq
  exact ⟨(pushes_of_runPushes hr).closed (fun _ _ _ _ h hp => h.push hp) h,
    by simpa using runPushes_reads (fun _ _ e => e) h.wf hr⟩

/-- a dictionary hit costs one byte: if `lookup b = some t` and the push succeeds, exactly the tag `UInt8.ofNat t` is
appended. Which strings the dictionary knows is the subject of the theorems below and of Props/C07MG.lean. -/
theorem heavy_hitters_one_byte_partial (r r' : Codec.Region) (b : Bytes) (t : Nat) (i : Nat × Nat)
    (hl : r.codec.lookup b = some t) (hp : Region.push r b = some (r', i)) :
    i.2 - i.1 = 1 ∧ r'.inner = r.inner ++ [UInt8.ofNat t] := by
  have hp' : Codec.Region.push ⟨r.inner, r.codec⟩ b = some (r', i) := hp
  rw [Codec.Region.push_hit hl] at hp'
  cases hp'
  exact ⟨by simp, rfl⟩

theorem heavy_hitters_all_tagged (srcs : List Dict) (hfree : (mergedMG srcs).done.length ≤ freeTags srcs) :
    ∀ e ∈ (mergedMG srcs).done, ((Dict.newFrom srcs).lookup e.1).isSome :=
  Dict.newFrom_all_tagged srcs hfree

/-- when no Misra-Gries compaction happens during the merge (fewer than `MG.cap` entries in total; on `MG.cap`
see Proofs/MGCap.lean) and there are at least as many free tags as merged entries (`hfree`), every (consolidated)
entry of every source gets a tag. (That the merged list then holds all the sources' entries is `mergedMG_complete`.) -/
theorem all_sources_tagged (srcs : List Dict) (hsmall : (srcs.map (·.mg.done.length)).sum < MG.cap)
    (hfree : (mergedMG srcs).done.length ≤ freeTags srcs) :
    ∀ s ∈ srcs, ∀ e ∈ s.mg.done, ((Dict.newFrom srcs).lookup e.1).isSome := by
  intro s hs e he
  obtain ⟨c, hc⟩ := mergedMG_complete srcs hsmall s hs e he
  exact Dict.newFrom_all_tagged srcs hfree (e.1, c) hc

/-- in terms of what was pushed, under the two hypotheses of `all_sources_tagged`: a source that started with empty
statistics (fresh, cleared or merged) and saw fewer than `MG.cap` strings has every non-empty one of them tagged by
the merge, and a successful push of it into the merged region stores one byte -/
theorem all_pushed_tagged (srcs : List Dict) (hsmall : (srcs.map (·.mg.done.length)).sum < MG.cap)
    (hfree : (mergedMG srcs).done.length ≤ freeTags srcs)
    (d0 : Dict) (bs : List Bytes) (h0 : d0.mg = ⟨[]⟩) (hbs : bs.length < MG.cap)
    (hs : bs.foldl Dict.observe d0 ∈ srcs) (b : Bytes) (hb : b ∈ bs) (hne : b ≠ []) :
    ((Dict.newFrom srcs).lookup b).isSome ∧
    ∀ (inner : Bytes) r' i, Region.push (⟨inner, Dict.newFrom srcs⟩ : Codec.Region) b = some (r', i) → i.2 - i.1 = 1 := by
  have hin : (b, 1) ∈ (bs.foldl Dict.observe d0).mg.inner := by
    rw [Dict.observe_foldl_mg bs d0 (by rw [h0]; simp only [List.length_nil]; omega), h0]
    exact List.mem_map.2 ⟨b, List.mem_filter.2 ⟨hb, by simpa using hne⟩, rfl⟩
  obtain ⟨c, hc⟩ := (MG.mem_done_key_iff _ b).2 ⟨1, Nat.one_ne_zero, hin⟩
  have hl := all_sources_tagged srcs hsmall hfree _ hs (b, c) hc
  generalize Dict.newFrom srcs = d at hl ⊢
  refine ⟨hl, fun inner r' i hp => ?_⟩
  obtain ⟨t, hlt⟩ := Option.isSome_iff_exists.1 hl
  exact (heavy_hitters_one_byte_partial ⟨inner, d⟩ r' b t i hlt hp).1

/-- the hypotheses are satisfiable: one source that saw "ab","c","ab" (2 heavy hitters, 254 free tags) -/
example : let srcs := [[[97, 98], [99], [97, 98]].foldl Dict.observe Dict.default]
    (srcs.map (·.mg.done.length)).sum < MG.cap ∧ (mergedMG srcs).done.length ≤ freeTags srcs ∧
    (mergedMG srcs).done.length = 2 ∧ freeTags srcs = 254 := by
  set_option maxRecDepth 100000 in decide

/-! ### the region laws, hence every composition over the codec region is covered -/

example : LawfulRegion Codec.Region := inferInstance
example : LawfulRegion (StringRegion Codec.Region) := inferInstance
example : LawfulRegion (ConsecPairs Codec.Region (Capd IndexOptimized)) := inferInstance

end FC.C07
