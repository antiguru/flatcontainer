import FlatModel.Props.UniverseHeap
import FlatModel.Props.C17Grows
/-! C17, last sentence ("without pre-sizing, pushing n items costs O(log n) allocator calls per
internal storage — never one per item"), for **every uncoded composition**, in this form: along a batch
of pushes every tracked storage changes capacity at most `log2 (its final capacity) + 1` times, each
change at least doubling it. Capacity changes are observed once per region push; no statement bounds
the final capacity by the number of items pushed.

`UniverseHeap.lean` (`C17_log_growth_every_composition`) has this on the sub-universe `d.VecSized` (a
fixed list of `Vec`s). Here it holds for every `d : RDesc v ix` with `d.Uncoded`: `collapse`, `consec`,
`columns` (whose set of storages grows) and `slice` / `stack` / `consec` / `columns` over `IndexOptimized`
and `IndexList` included. Storages are addressed by key (`Proofs/Grows.lean`).

The one reported entry for which the law is false *in the model* is the column vector of a `columns`
region (`C17.columnsVec_not_cstep`: its capacity is not modelled, `heap_size` reports its length); it is
the only key with `tracked = false`, and there is none when `d.NoColumns` (`RDesc.all_tracked`). -/
namespace FC.Universe
open FC Region

theorem IdxKind.idxGrows : {i : Ty} → (k : IdxKind i) →
    @IdxGrows k.bundle.O i.interp k.bundle.inst k.ops.aux k.heap.heapInv
  | i, .vec sz => inferInstanceAs (IdxGrows (Capd (VecIdx i.interp sz)))
  | _, .opt => inferInstanceAs (IdxGrows (Capd IndexOptimized))
  | _, .list => inferInstanceAs (IdxGrows (Capd IndexList))

@[instance_reducible] def IdxKind.anchor : {i : Ty} → (k : IdxKind i) →
    @IdxAnchor k.bundle.O i.interp k.bundle.inst k.ops.aux k.heap.heapInv
  | i, .vec sz => inferInstanceAs (IdxAnchor (Capd (VecIdx i.interp sz)))
  | _, .opt => inferInstanceAs (IdxAnchor (Capd IndexOptimized))
  | _, .list => inferInstanceAs (IdxAnchor (Capd IndexList))

section GrowsDefs
variable [σ : SizeEnv]

@[instance_reducible] def RDesc.grows : {v : Ty} → {ix : Ix} → (d : RDesc v ix) → d.Uncoded → Grows d.R
  | _, _, .mirror t, _ => inferInstanceAs (Grows (MirrorRegion t.interp))
  | _, _, .owned t, _ => letI := σ.elem t; inferInstanceAs (Grows (OwnedRegion t.interp))
  | _, _, .vec t, _ => letI := σ.elem t; inferInstanceAs (Grows (VecRegion t.interp))
  | _, .any i, .string d, h =>
    letI : Region d.R (List UInt8) i.interp := d.bundle.inst
    letI : RegionAux d.R := d.aux
    letI : Grows d.R := d.grows h
    inferInstanceAs (Grows (StringRegion d.R))
  | _, .dense, .string d, h =>
    letI : Region d.R (List UInt8) (Nat × Nat) := d.bundle.inst
    letI : RegionAux d.R := d.aux
    letI : Grows d.R := d.grows h
    inferInstanceAs (Grows (StringRegion d.R))
  | _, _, .option d, h => letI := d.grows h; inferInstanceAs (Grows (OptionRegion d.R))
  | _, _, .result t e, h => letI := t.grows h.1; letI := e.grows h.2; inferInstanceAs (Grows (ResultRegion t.R e.R))
  | _, _, .tupleNil, _ => inferInstanceAs (Grows TupleNil)
  | _, _, .tupleCons a b, h => letI := a.grows h.1; letI := b.grows h.2; inferInstanceAs (Grows (TupleCons a.R b.R))
  | v, _, .collapse (ix := ix) d, h =>
    letI := v.hasEqv; letI := σ.index ix.ty; letI := d.grows h
    inferInstanceAs (Grows (CollapseSequence d.R ix.ty.interp))
  | _, _, .slice d k, h =>
    letI := d.grows h; letI := k.ops.aux
    inferInstanceAs (Grows (SliceRegion d.R k.bundle.O))
  | _, _, .consec d k, h =>
    letI : RegionAux d.bundleX.R := d.aux
    letI : Grows d.bundleX.R := d.grows h
    letI := k.ops.aux
    inferInstanceAs (Grows (ConsecPairs d.bundleX.R k.bundle.O))
  | _, _, .columns (ix := ix) d k, h =>
    letI := σ.elem ix.ty; letI := d.grows h; letI := k.ops.aux
    inferInstanceAs (Grows (ColumnsRegion d.R ix.ty.interp k.bundle.O))
  | _, _, .stack d k, h =>
    letI := d.grows h; letI := k.ops.aux
    inferInstanceAs (Grows (FlatStack d.R k.bundle.O))

theorem RDesc.lawfulGrows : {v : Ty} → {ix : Ix} → (d : RDesc v ix) → (h : d.Uncoded) →
    @LawfulGrows d.R _ _ d.bundle.inst d.aux d.heapInv (d.grows h)
  | _, _, .mirror t, _ => inferInstanceAs (LawfulGrows (MirrorRegion t.interp))
  | _, _, .owned t, _ => letI := σ.elem t; inferInstanceAs (LawfulGrows (OwnedRegion t.interp))
  | _, _, .vec t, _ => letI := σ.elem t; inferInstanceAs (LawfulGrows (VecRegion t.interp))
  | _, .any i, .string d, h =>
    letI : Region d.R (List UInt8) i.interp := d.bundle.inst
    letI : RegionAux d.R := d.aux
    letI : HeapInv d.R := d.heapInv
    letI : LawfulHeap d.R := d.lawfulHeap
    letI : Grows d.R := d.grows h
    letI : LawfulGrows d.R := d.lawfulGrows h
    inferInstanceAs (LawfulGrows (StringRegion d.R))
  | _, .dense, .string d, h =>
    letI : Region d.R (List UInt8) (Nat × Nat) := d.bundle.inst
    letI : RegionAux d.R := d.aux
    letI : HeapInv d.R := d.heapInv
    letI : LawfulHeap d.R := d.lawfulHeap
    letI : Grows d.R := d.grows h
    letI : LawfulGrows d.R := d.lawfulGrows h
    inferInstanceAs (LawfulGrows (StringRegion d.R))
  | _, _, .option d, h =>
    letI := d.grows h; letI := d.lawfulGrows h
    inferInstanceAs (LawfulGrows (OptionRegion d.R))
  | _, _, .result t e, h =>
    letI := t.grows h.1; letI := e.grows h.2; letI := t.lawfulGrows h.1; letI := e.lawfulGrows h.2
    inferInstanceAs (LawfulGrows (ResultRegion t.R e.R))
  | _, _, .tupleNil, _ => inferInstanceAs (LawfulGrows TupleNil)
  | _, _, .tupleCons a b, h =>
    letI := a.grows h.1; letI := b.grows h.2; letI := a.lawfulGrows h.1; letI := b.lawfulGrows h.2
    inferInstanceAs (LawfulGrows (TupleCons a.R b.R))
  | v, _, .collapse (ix := ix) d, h =>
    letI := v.hasEqv; letI := σ.index ix.ty; letI := d.grows h; letI := d.lawfulGrows h
    inferInstanceAs (LawfulGrows (CollapseSequence d.R ix.ty.interp))
  | _, _, .slice d k, h =>
    letI := d.grows h; letI := d.lawfulGrows h
    letI := k.ops.aux; letI := k.heap.heapInv; letI := k.heap.lawfulHeap; letI := k.idxGrows
    inferInstanceAs (LawfulGrows (SliceRegion d.R k.bundle.O))
  | _, _, .consec d k, h =>
    letI : RegionAux d.bundleX.R := d.aux
    letI : HeapInv d.bundleX.R := d.heapInv
    letI : LawfulHeap d.bundleX.R := d.lawfulHeap
    letI : Grows d.bundleX.R := d.grows h
    letI : LawfulGrows d.bundleX.R := d.lawfulGrows h
    letI := k.ops.aux; letI := k.heap.heapInv; letI := k.heap.lawfulHeap; letI := k.idxGrows
    inferInstanceAs (LawfulGrows (ConsecPairs d.bundleX.R k.bundle.O))
  | _, _, .columns (ix := ix) d k, h =>
    letI := σ.elem ix.ty; letI := d.grows h; letI := d.lawfulGrows h
    letI := k.ops.aux; letI := k.heap.heapInv; letI := k.heap.lawfulHeap; letI := k.idxGrows
    inferInstanceAs (LawfulGrows (ColumnsRegion d.R ix.ty.interp k.bundle.O))
  | _, _, .stack d k, h =>
    letI := d.grows h; letI := d.lawfulGrows h
    letI := k.ops.aux; letI := k.heap.heapInv; letI := k.heap.lawfulHeap; letI := k.idxGrows
    inferInstanceAs (LawfulGrows (FlatStack d.R k.bundle.O))

theorem RDesc.growthLaw {v : Ty} {ix : Ix} (d : RDesc v ix) (h : d.Uncoded) :
    GrowthLaw (d.grows h) (HeapInv.CapInv (R := d.R)) :=
  (d.lawfulGrows h).law

@[instance_reducible] def RDesc.clearExact : {v : Ty} → {ix : Ix} → (d : RDesc v ix) → d.Uncoded →
    @ClearExact d.R _ _ d.bundle.inst d.aux d.heapInv
  | _, _, .mirror t, _ => inferInstanceAs (ClearExact (MirrorRegion t.interp))
  | _, _, .owned t, _ => letI := σ.elem t; inferInstanceAs (ClearExact (OwnedRegion t.interp))
  | _, _, .vec t, _ => letI := σ.elem t; inferInstanceAs (ClearExact (VecRegion t.interp))
  | _, .any i, .string d, h =>
    letI : Region d.R (List UInt8) i.interp := d.bundle.inst
    letI : RegionAux d.R := d.aux
    letI : HeapInv d.R := d.heapInv
    letI : LawfulHeap d.R := d.lawfulHeap
    letI : ClearExact d.R := d.clearExact h
    inferInstanceAs (ClearExact (StringRegion d.R))
  | _, .dense, .string d, h =>
    letI : Region d.R (List UInt8) (Nat × Nat) := d.bundle.inst
    letI : RegionAux d.R := d.aux
    letI : HeapInv d.R := d.heapInv
    letI : LawfulHeap d.R := d.lawfulHeap
    letI : ClearExact d.R := d.clearExact h
    inferInstanceAs (ClearExact (StringRegion d.R))
  | _, _, .option d, h =>
    letI := d.clearExact h
    inferInstanceAs (ClearExact (OptionRegion d.R))
  | _, _, .result t e, h =>
    letI := t.clearExact h.1; letI := e.clearExact h.2
    inferInstanceAs (ClearExact (ResultRegion t.R e.R))
  | _, _, .tupleNil, _ => inferInstanceAs (ClearExact TupleNil)
  | _, _, .tupleCons a b, h =>
    letI := a.clearExact h.1; letI := b.clearExact h.2
    inferInstanceAs (ClearExact (TupleCons a.R b.R))
  | v, _, .collapse (ix := ix) d, h =>
    letI := v.hasEqv; letI := σ.index ix.ty; letI := d.clearExact h
    inferInstanceAs (ClearExact (CollapseSequence d.R ix.ty.interp))
  | _, _, .slice d k, h =>
    letI := d.clearExact h
    letI := k.ops.aux; letI := k.heap.heapInv; letI := k.heap.lawfulHeap; letI := k.idxGrows
    inferInstanceAs (ClearExact (SliceRegion d.R k.bundle.O))
  | _, _, .consec d k, h =>
    letI : RegionAux d.bundleX.R := d.aux
    letI : HeapInv d.bundleX.R := d.heapInv
    letI : LawfulHeap d.bundleX.R := d.lawfulHeap
    letI : ClearExact d.bundleX.R := d.clearExact h
    letI := k.ops.aux; letI := k.heap.heapInv; letI := k.heap.lawfulHeap; letI := k.anchor
    inferInstanceAs (ClearExact (ConsecPairs d.bundleX.R k.bundle.O))
  | _, _, .columns (ix := ix) d k, h =>
    letI := σ.elem ix.ty; letI := d.clearExact h
    letI := k.ops.aux; letI := k.heap.heapInv; letI := k.heap.lawfulHeap; letI := k.anchor
    inferInstanceAs (ClearExact (ColumnsRegion d.R ix.ty.interp k.bundle.O))
  | _, _, .stack d k, h =>
    letI := d.clearExact h
    letI := k.ops.aux; letI := k.heap.heapInv; letI := k.idxGrows
    inferInstanceAs (ClearExact (FlatStack d.R k.bundle.O))

theorem RDesc.all_tracked : {v : Ty} → {ix : Ix} → (d : RDesc v ix) → (h : d.Uncoded) → d.NoColumns →
    ∀ k, (d.grows h).tracked k = true
  | _, _, .mirror _, _, _ => fun _ => rfl
  | _, _, .owned _, _, _ => fun _ => rfl
  | _, _, .vec _, _, _ => fun _ => rfl
  | _, .any _, .string d, h, hc => d.all_tracked h hc
  | _, .dense, .string d, h, hc => d.all_tracked h hc
  | _, _, .option d, h, hc => d.all_tracked h hc
  | _, _, .result t e, h, hc => join2B_true (t.all_tracked h.1 hc.1) (e.all_tracked h.2 hc.2)
  | _, _, .tupleNil, _, _ => fun _ => rfl
  | _, _, .tupleCons a b, h, hc => join2B_true (a.all_tracked h.1 hc.1) (b.all_tracked h.2 hc.2)
  | _, _, .collapse d, h, hc => d.all_tracked h hc
  | _, _, .slice d _, h, hc => join2B_true (fun _ => rfl) (d.all_tracked h hc)
  | _, _, .consec d _, h, hc => join2B_true (fun _ => rfl) (d.all_tracked h hc)
  | _, _, .stack d _, h, hc => join2B_true (d.all_tracked h hc) (fun _ => rfl)

end GrowsDefs

section C17Props
variable [SizeEnv] {v : Ty} {ix : Ix}
open C08

/-- the keyed view is what `heap_size` reports: in every state reachable through the API (`Reach`), `capAt` on `keys` is, in
callback order, the list of reported capacities; keys are distinct; any other key has capacity `0` -/
theorem C17_keys_are_heap_uncoded (d : RDesc v ix) (hu : d.Uncoded) (r : d.R) (hr : Reach r) :
    ((d.grows hu).keys r).map ((d.grows hu).capAt r) = (RegionAux.heap r).map (·.2) ∧
    ((d.grows hu).keys r).Nodup ∧ (∀ k, k ∉ (d.grows hu).keys r → (d.grows hu).capAt r k = 0) :=
  ⟨(d.growthLaw hu).keys_caps r (C18.reach_capInv r hr), (d.growthLaw hu).keys_nodup r, (d.growthLaw hu).capAt_notin r⟩

/-- **C17 without pre-sizing, for every uncoded composition.** From any state reachable through the
API, along any batch of pushes:
* the storage with a tracked key `k` (every key but those of the column vectors of `columns` regions,
  for which the bound is false in the model: `C17.columnsVec_not_cstep`) changes capacity at most
  `log2 (its final capacity) + 1` times — a storage that does not exist at the start (a column added
  by a wider row) starts from capacity `0`, its first allocation is counted;
* the same for the `j`-th pair of the final `heap_size` report, when its key is tracked;
* storages never disappear, and keep their order in the report. -/
theorem C17_log_growth_uncoded (d : RDesc v ix) (hu : d.Uncoded) (r r' : d.R) (xs : List v.interp)
    (hr : Reach r) (hp : runPushes r xs = some r') :
    (∀ k, (d.grows hu).tracked k = true →
      changes ((d.grows hu).capAt r k) (C17.histK (d.grows hu) r xs k) ≤ Nat.log2 ((d.grows hu).capAt r' k) + 1) ∧
    (∀ j (hj : j < ((d.grows hu).keys r').length), (d.grows hu).tracked (((d.grows hu).keys r')[j]) = true →
      changes ((d.grows hu).capAt r (((d.grows hu).keys r')[j])) (C17.histK (d.grows hu) r xs (((d.grows hu).keys r')[j]))
        ≤ Nat.log2 (((RegionAux.heap r').map (·.2)).getD j 0) + 1) ∧
    ((d.grows hu).keys r).Sublist ((d.grows hu).keys r') ∧
    (∀ k, k ∉ (d.grows hu).keys r → (d.grows hu).capAt r k = 0) :=
  have hc := C18.reach_capInv r hr
  ⟨fun k hk => C17.log_growth_keyed (d.growthLaw hu) r r' xs hc hp k hk,
   fun j hj hk => C17.log_growth_heap (d.growthLaw hu) r r' xs hc hp j hj hk,
   C17.pushes_keys_sublist (d.growthLaw hu) r r' xs hc hp,
   (d.growthLaw hu).capAt_notin r⟩

theorem C17_push_doubles_uncoded (d : RDesc v ix) (hu : d.Uncoded) (r r' : d.R) (x : v.interp) (i : ix.ty.interp)
    (hr : Reach r) (hp : push r x = some (r', i)) (k : Key) (hk : (d.grows hu).tracked k = true)
    (hne : (d.grows hu).capAt r' k ≠ (d.grows hu).capAt r k) :
    2 * (d.grows hu).capAt r k ≤ (d.grows hu).capAt r' k ∧ 1 ≤ (d.grows hu).capAt r' k :=
  C17.push_doubles_keyed (d.growthLaw hu) r r' x i (C18.reach_capInv r hr) hp k hk hne

/-- **the total**: the capacity changes a batch causes, over all tracked storages of the final state,
are at most `Σ (log2 capacity + 1)` over those storages; no other tracked key ever had a capacity -/
theorem C17_total_uncoded (d : RDesc v ix) (hu : d.Uncoded) (r r' : d.R) (xs : List v.interp)
    (hr : Reach r) (hp : runPushes r xs = some r') :
    C17.allocs (d.grows hu) r xs (C17.trackedKeys (d.grows hu) r') ≤
      ((C17.trackedKeys (d.grows hu) r').map fun k => Nat.log2 ((d.grows hu).capAt r' k) + 1).sum ∧
    (∀ k, (d.grows hu).tracked k = true → k ∉ (d.grows hu).keys r' →
      changes ((d.grows hu).capAt r k) (C17.histK (d.grows hu) r xs k) = 0) :=
  have hc := C18.reach_capInv r hr
  ⟨C17.total_allocs_le (d.growthLaw hu) r r' xs hc hp,
   fun k hk hn => C17.no_changes_elsewhere (d.growthLaw hu) r r' xs hc hp k hk hn⟩

/-- … and without `columns` that is the whole final `heap_size` report: the batch causes at most
`Σ over the reported capacities c of (log2 c + 1)` capacity changes -/
theorem C17_total_nocolumns (d : RDesc v ix) (hu : d.Uncoded) (hc : d.NoColumns) (r r' : d.R) (xs : List v.interp)
    (hr : Reach r) (hp : runPushes r xs = some r') :
    C17.allocs (d.grows hu) r xs ((d.grows hu).keys r') ≤
      (((RegionAux.heap r').map (·.2)).map fun c => Nat.log2 c + 1).sum :=
  C17.total_allocs_le_heap (d.growthLaw hu) (d.all_tracked hu hc) r r' xs (C18.reach_capInv r hr) hp

/-- **the bridge**: on the sub-universe `d.VecSized` of `C17_log_growth_every_composition`, the keyed view
read off `Sized` (key `[j]` = position `j` of `Sized.caps`, in bytes) obeys the same growth law, under
the bookkeeping invariant `CInv`; `C17.log_growth_keyed` etc. apply to it -/
theorem C17_bridge_vecSized (d : RDesc v ix) (hs : d.VecSized) :
    GrowthLaw (@Grows.ofSized d.R _ _ d.bundle.inst d.aux (d.sized hs)) (@Sized.CInv d.R _ _ d.bundle.inst d.aux (d.sized hs)) :=
  letI := d.sized hs
  haveI := (d.sizedLaws hs).lawful
  haveI := (d.sizedLaws hs).growth
  GrowthLaw.ofSized

/-- `clear` releases nothing: the same storages are reported and no tracked capacity is smaller -/
theorem C17_clear_keeps_uncoded (d : RDesc v ix) (hu : d.Uncoded) (r : d.R) (hr : Reach r) :
    (d.grows hu).keys (clear r) = (d.grows hu).keys r ∧
    ∀ k, (d.grows hu).tracked k = true → (d.grows hu).capAt r k ≤ (d.grows hu).capAt (clear r) k :=
  C17.clear_keeps (d.growthLaw hu) r (C18.reach_capInv r hr)

/-- **`clear` keeps the allocations, exactly, for every uncoded composition**: in every state built
by `default`, `push`, `clear`, `heap_size` reports the same capacities after `clear` as before (and
the same storages): nothing is released, nothing is allocated -/
theorem C17_clear_exact_uncoded (d : RDesc v ix) (hu : d.Uncoded) (r : d.R) (h : C17.Filled r) :
    (RegionAux.heap (clear r)).map (·.2) = (RegionAux.heap r).map (·.2) ∧
    (d.grows hu).keys (clear r) = (d.grows hu).keys r ∧
    ∀ k, (d.grows hu).capAt (clear r) k = (d.grows hu).capAt r k :=
  letI := d.grows hu
  haveI := d.lawfulGrows hu
  letI := d.clearExact hu
  have := C17.clear_keeps_exactly r h
  ⟨this.2.2, this.1, this.2.1⟩

end C17Props

section Examples
open C08
attribute [local instance] SizeEnv.std

/-- a `FlatStack` over `IndexOptimized` whose indices are not a stride: collapsed pushes repeat an index -/
abbrev exSpillStack : RDesc .nat (.any .nat) := .stack (.collapse (.vec .nat)) .opt
abbrev exListSlice : RDesc (.list .bytes) .dense := .slice (.consec str .opt) .list
abbrev exColCol : RDesc (.list (.list .nat)) (.any .nat) := .columns (.columns (.vec .nat) (.vec 8)) .list

example : exColumns.Uncoded ∧ ¬ exColumns.VecSized := by decide
example : exStack.Uncoded ∧ ¬ exStack.VecSized := by decide
example : exSpillStack.Uncoded ∧ ¬ exSpillStack.VecSized := by decide
example : exCollapse.Uncoded ∧ ¬ exCollapse.VecSized := by decide
example : exListSlice.Uncoded ∧ ¬ exListSlice.VecSized := by decide
example : exColCol.Uncoded ∧ ¬ exColCol.VecSized ∧ ¬ exColCol.NoColumns := by decide
example : exTuple.Uncoded ∧ exTuple.VecSized ∧ exTuple.NoColumns := by decide
example : exSlice.Uncoded ∧ exResult.Uncoded ∧ exOddSize.Uncoded := by decide
-- coded regions are outside (their `heap_size` is `todo!()` / not modelled)
example : ¬ exCodec.Uncoded ∧ ¬ exHuff.Uncoded := by decide

section Agrees
-- sealed for the reason given in UniverseOps (`section Agrees`)
attribute [local irreducible] instRegionMirrorRegion instRegionOwnedRegionListProdNat instRegionVecRegionNat instRegionStringRegionListUInt8 instRegionOptionRegionOption instRegionResultRegionExcept
  instRegionTupleNilUnit instRegionTupleConsProd instRegionCollapseSequenceOfHasEqv instRegionSliceRegionListProdNat instRegionConsecPairsNatOfDenseRegionOfIdxCont
  instRegionColumnsRegionListNat instRegionRegionListUInt8ProdNat instRegionContainerListNatProd instRegionHuffU8ListUInt8ProdNat instRegionFlatStackNat
-- the keyed views are the ones instance resolution finds for the catalogued types
example : exColumns.grows (by decide) = (inferInstance : Grows (ColumnsRegion (CollapseSequence (ConsecPairs
    (StringRegion (OwnedRegion UInt8)) (Capd IndexOptimized)) Nat) Nat (Capd IndexOptimized))) := rfl
example : exStack.grows (by decide) = (inferInstance : Grows (FlatStack (ConsecPairs (OwnedRegion UInt8) (Capd IndexList))
    (Capd IndexOptimized))) := rfl
example : exTuple.grows (by decide) = (inferInstance : Grows (TupleCons (OptionRegion (StringRegion (OwnedRegion UInt8)))
    (TupleCons (ResultRegion (OwnedRegion Nat) (MirrorRegion Nat)) TupleNil))) := rfl
example : exSlice.grows (by decide) = (inferInstance : Grows (SliceRegion (SliceRegion (StringRegion (OwnedRegion UInt8))
    (Capd (VecIdx (Nat × Nat) 16))) (Capd (VecIdx (Nat × Nat) 16)))) := rfl
example : exSpillStack.grows (by decide) = (inferInstance : Grows (FlatStack (CollapseSequence (VecRegion Nat) Nat)
    (Capd IndexOptimized))) := rfl
end Agrees

/-! #### columns of collapse of consec of strings over `IndexOptimized`: a run in which the region
gains a column and strides spill -/

/-- three rows of width 1: one column, the row offsets 0, 1, 2, 3 are a stride -/
def exRows1 : List (List (List UInt8)) := [[[1]], [[2]], [[3]]]
/-- then two rows of width 2: a second column appears, the row offsets 5, 7 leave the stride -/
def exRows2 : List (List (List UInt8)) := [[[4], [5, 6]], [[7], [8]]]

/-- Evaluated. Before the batch `heap_size` reports 7 storages, after it 10: the three storages of
the new column (keys `1 :: 1 :: _`) appear between those of column 0 and those of the row offsets.
Histories (capacity before the batch, capacities after each of the two pushes), per final storage:
the column vector `[0]` 128 → 256 (not tracked); the bytes of column 0 `[1,0,1,0]` 4 → 4 → 8; the
offsets of the new column `[1,1,0,0]` 0 → 0 → 4 (its stride `0, 2` breaks at `3`: spill); its bytes
`[1,1,1,0]` 0 → 2 → 4; the spilled row offsets `[2,0,0]` 0 → 4 → 8 (the stride `0,1,2,3` breaks at `5`);
the row index payload `[2,1,0]` 32 → 64 → 64. -/
example : ∃ r r' : exColumns.R, runPushes (Region.default : exColumns.R) exRows1 = some r ∧ runPushes r exRows2 = some r' ∧
    (exColumns.grows (by decide)).keys r = [[0], [1, 0, 0, 0], [1, 0, 0, 1], [1, 0, 1, 0], [2, 0, 0], [2, 0, 1], [2, 1, 0]] ∧
    (RegionAux.heap r).map (·.2) = [128, 0, 0, 4, 0, 0, 32] ∧
    (exColumns.grows (by decide)).keys r' = [[0], [1, 0, 0, 0], [1, 0, 0, 1], [1, 0, 1, 0], [1, 1, 0, 0], [1, 1, 0, 1],
      [1, 1, 1, 0], [2, 0, 0], [2, 0, 1], [2, 1, 0]] ∧
    (RegionAux.heap r').map (·.2) = [256, 0, 0, 8, 4, 0, 4, 8, 0, 64] ∧
    ((exColumns.grows (by decide)).keys r').map (fun k => ((exColumns.grows (by decide)).tracked k,
        (exColumns.grows (by decide)).capAt r k, C17.histK (exColumns.grows (by decide)) r exRows2 k)) =
      [(false, 128, [256, 256]), (true, 0, [0, 0]), (true, 0, [0, 0]), (true, 4, [4, 8]), (true, 0, [0, 4]),
       (true, 0, [0, 0]), (true, 0, [2, 4]), (true, 0, [4, 8]), (true, 0, [0, 0]), (true, 32, [64, 64])] ∧
    -- (number of capacity changes, the bound `log2 (final capacity) + 1`), tracked storages in report order
    (C17.trackedKeys (exColumns.grows (by decide)) r').map (fun k =>
        (changes ((exColumns.grows (by decide)).capAt r k) (C17.histK (exColumns.grows (by decide)) r exRows2 k),
         Nat.log2 ((exColumns.grows (by decide)).capAt r' k) + 1)) =
      [(0, 1), (0, 1), (1, 4), (1, 3), (0, 1), (2, 3), (2, 4), (0, 1), (1, 7)] ∧
    C17.allocs (exColumns.grows (by decide)) r exRows2 (C17.trackedKeys (exColumns.grows (by decide)) r') = 7 :=
  ⟨_, _, rfl, rfl, by decide, by decide, by decide, by decide, by decide, by decide, by decide⟩

/-- the theorems apply to that run (from a populated state): every hypothesis is met -/
example (r r' : exColumns.R) (h0 : runPushes (Region.default : exColumns.R) exRows1 = some r) (h : runPushes r exRows2 = some r') :
    changes ((exColumns.grows (by decide)).capAt r [1, 1, 1, 0]) (C17.histK (exColumns.grows (by decide)) r exRows2 [1, 1, 1, 0])
      ≤ Nat.log2 ((exColumns.grows (by decide)).capAt r' [1, 1, 1, 0]) + 1 ∧
    ((exColumns.grows (by decide)).keys r).Sublist ((exColumns.grows (by decide)).keys r') ∧
    C17.allocs (exColumns.grows (by decide)) r exRows2 (C17.trackedKeys (exColumns.grows (by decide)) r') ≤
      ((C17.trackedKeys (exColumns.grows (by decide)) r').map fun k => Nat.log2 ((exColumns.grows (by decide)).capAt r' k) + 1).sum :=
  have hr := reach_of_reachable_pushes r _ h0
  have hg := C17_log_growth_uncoded exColumns (by decide) r r' exRows2 hr h
  ⟨hg.1 [1, 1, 1, 0] rfl, hg.2.2.1, (C17_total_uncoded exColumns (by decide) r r' exRows2 hr h).1⟩

/-- the bound is attained: the bytes of column 0, pushed one byte at a time from empty, change capacity
4 times (1, 2, 4, 8) and `log2 8 + 1 = 4` -/
example : ∃ r' : exColumns.R, runPushes (Region.default : exColumns.R) (exRows1 ++ exRows2) = some r' ∧
    C17.histK (exColumns.grows (by decide)) (Region.default : exColumns.R) (exRows1 ++ exRows2) [1, 0, 1, 0] = [1, 2, 4, 4, 8] ∧
    changes 0 (C17.histK (exColumns.grows (by decide)) (Region.default : exColumns.R) (exRows1 ++ exRows2) [1, 0, 1, 0]) = 4 ∧
    Nat.log2 ((exColumns.grows (by decide)).capAt r' [1, 0, 1, 0]) + 1 = 4 :=
  ⟨_, rfl, by decide, by decide, by decide⟩

example : (runPushes (Region.default : exColumns.R) (exRows1 ++ exRows2)).map
      (fun r => ((RegionAux.heap r).map (·.2), (RegionAux.heap (clear r)).map (·.2))) =
    some ([256, 0, 0, 8, 4, 0, 4, 8, 0, 64], [256, 0, 0, 8, 4, 0, 4, 8, 0, 64]) := by decide
example (r : exColumns.R) (h : runPushes (Region.default : exColumns.R) (exRows1 ++ exRows2) = some r) :
    (RegionAux.heap (clear r)).map (·.2) = (RegionAux.heap r).map (·.2) :=
  (C17_clear_exact_uncoded exColumns (by decide) r (C17.Filled.pushes _ C17.Filled.default h)).1

/-- collapsed pushes repeat an index: the stack's indices 0, 1, 1, 2, 2, … are not a stride -/
def exCopies : List Nat := [5, 6, 6, 7, 7, 8, 9, 9, 9, 3]

/-- the fourth copy spills into the `u32` vector of the `IndexList` (key `[1, 0]`: 0 → 4 → 8 → 16 → 32 bytes) -/
example : ∃ r' : exSpillStack.R, runPushes (Region.default : exSpillStack.R) exCopies = some r' ∧
    (exSpillStack.grows (by decide)).keys r' = [[0, 0], [1, 0], [1, 1]] ∧
    (RegionAux.heap r').map (·.2) = [64, 32, 0] ∧
    ((exSpillStack.grows (by decide)).keys r').map (C17.histK (exSpillStack.grows (by decide)) (Region.default : exSpillStack.R) exCopies) =
      [[8, 16, 16, 32, 32, 32, 64, 64, 64, 64], [0, 0, 0, 4, 8, 16, 16, 32, 32, 32], [0, 0, 0, 0, 0, 0, 0, 0, 0, 0]] ∧
    ((exSpillStack.grows (by decide)).keys r').map (fun k =>
        (changes 0 (C17.histK (exSpillStack.grows (by decide)) (Region.default : exSpillStack.R) exCopies k),
         Nat.log2 ((exSpillStack.grows (by decide)).capAt r' k) + 1)) = [(4, 7), (4, 6), (0, 1)] :=
  ⟨_, rfl, by decide, by decide, by decide, by decide⟩
example (r r' : exSpillStack.R) (xs : List Nat) (hr : Reach r) (h : runPushes r xs = some r') :
    C17.allocs (exSpillStack.grows (by decide)) r xs ((exSpillStack.grows (by decide)).keys r') ≤
      (((RegionAux.heap r').map (·.2)).map fun c => Nat.log2 c + 1).sum :=
  C17_total_nocolumns exSpillStack (by decide) (by decide) r r' xs hr h
example (r r' : exStack.R) (xs : List (List UInt8)) (hr : Reach r) (h : runPushes r xs = some r') (k : Key) :
    changes ((exStack.grows (by decide)).capAt r k) (C17.histK (exStack.grows (by decide)) r xs k) ≤
      Nat.log2 ((exStack.grows (by decide)).capAt r' k) + 1 :=
  (C17_log_growth_uncoded exStack (by decide) r r' xs hr h).1 k (exStack.all_tracked (by decide) (by decide) k)

/-! #### a tuple of option / result (also `VecSized`: both theorems apply, the capacities agree) -/
def exPairs : List (Option (List UInt8) × (Except Nat (List Nat) × Unit)) :=
  [(some [1, 2], (.ok [5, 6], ())), (none, (.error 7, ())), (some [3], (.ok [1, 2, 3], ()))]

example : ∃ r' : exTuple.R, runPushes (Region.default : exTuple.R) exPairs = some r' ∧
    (exTuple.grows (by decide)).keys r' = [[0, 0], [1, 0, 0, 0]] ∧ (RegionAux.heap r').map (·.2) = [4, 40] ∧
    ((exTuple.grows (by decide)).keys r').map (C17.histK (exTuple.grows (by decide)) (Region.default : exTuple.R) exPairs) =
      [[2, 2, 4], [16, 16, 40]] ∧
    (letI := exTuple.sized (by decide); Sized.caps r' = [4, 5] ∧ Sized.sizes exTuple.R = [1, 8]) :=
  ⟨_, rfl, by decide, by decide, by decide, by decide⟩
example : GrowthLaw (@Grows.ofSized exTuple.R _ _ exTuple.bundle.inst exTuple.aux (exTuple.sized (by decide)))
    (@Sized.CInv exTuple.R _ _ exTuple.bundle.inst exTuple.aux (exTuple.sized (by decide))) :=
  C17_bridge_vecSized exTuple (by decide)

example : ∃ r' : exListSlice.R, runPushes (Region.default : exListSlice.R) [[[1], [2, 3]], [], [[4, 5, 6]], [[7], [8], [9]]] = some r' ∧
    (exListSlice.grows (by decide)).keys r' = [[0, 0], [0, 1], [1, 0, 0], [1, 0, 1], [1, 1, 0]] ∧
    (RegionAux.heap r').map (·.2) = [32, 0, 32, 0, 12] ∧
    ((exListSlice.grows (by decide)).keys r').map (C17.histK (exListSlice.grows (by decide)) (Region.default : exListSlice.R)
        [[[1], [2, 3]], [], [[4, 5, 6]], [[7], [8], [9]]]) =
      [[8, 8, 16, 32], [0, 0, 0, 0], [4, 4, 8, 32], [0, 0, 0, 0], [3, 3, 6, 12]] :=
  ⟨_, rfl, by decide, by decide, by decide⟩
example (r r' : exListSlice.R) (xs : List (List (List UInt8))) (hr : Reach r) (h : runPushes r xs = some r') :
    C17.allocs (exListSlice.grows (by decide)) r xs ((exListSlice.grows (by decide)).keys r') ≤
      (((RegionAux.heap r').map (·.2)).map fun c => Nat.log2 c + 1).sum :=
  C17_total_nocolumns exListSlice (by decide) (by decide) r r' xs hr h

/-- the second row is wider at both levels: the outer region gains a column (keys `1 :: 1 :: _`, a whole
inner columns region), and the inner region of column 0 gains a column (keys `[1, 0, 1, 1, 0]`); three
entries are column vectors (`tracked = false`), reported as columns times `RegionAux.selfSize` of the column
type: 80 for the inner columns region, 24 for a `VecRegion` -/
example : ∃ r r' : exColCol.R, runPushes (Region.default : exColCol.R) [[[1]]] = some r ∧ runPushes r [[[2, 3], [4]]] = some r' ∧
    (exColCol.grows (by decide)).keys r = [[0], [1, 0, 0], [1, 0, 1, 0, 0], [1, 0, 2, 0, 0], [1, 0, 2, 1, 0], [2, 0, 0], [2, 0, 1], [2, 1, 0]] ∧
    (exColCol.grows (by decide)).keys r' = [[0], [1, 0, 0], [1, 0, 1, 0, 0], [1, 0, 1, 1, 0], [1, 0, 2, 0, 0], [1, 0, 2, 1, 0],
      [1, 1, 0], [1, 1, 1, 0, 0], [1, 1, 2, 0, 0], [1, 1, 2, 1, 0], [2, 0, 0], [2, 0, 1], [2, 1, 0]] ∧
    ((exColCol.grows (by decide)).keys r').filter (fun k => !(exColCol.grows (by decide)).tracked k) = [[0], [1, 0, 0], [1, 1, 0]] ∧
    ((exColCol.grows (by decide)).keys r').map (fun k => ((exColCol.grows (by decide)).capAt r k, (exColCol.grows (by decide)).capAt r' k)) =
      [(80, 160), (24, 48), (8, 16), (0, 8), (16, 32), (8, 24), (0, 24), (0, 8), (0, 16), (0, 8), (8, 16), (0, 0), (8, 24)] :=
  ⟨_, _, rfl, rfl, by decide, by decide, by decide, by decide⟩
example (r r' : exColCol.R) (xs : List (List (List Nat))) (hr : Reach r) (h : runPushes r xs = some r') :
    C17.allocs (exColCol.grows (by decide)) r xs (C17.trackedKeys (exColCol.grows (by decide)) r') ≤
      ((C17.trackedKeys (exColCol.grows (by decide)) r').map fun k => Nat.log2 ((exColCol.grows (by decide)).capAt r' k) + 1).sum :=
  (C17_total_uncoded exColCol (by decide) r r' xs hr h).1

/-- nine strings into a consec region over `IndexOptimized`: the byte store changes capacity five
times (1, 2, 4, 8, 16 = `log2 16 + 1`), not nine; the offsets are a stride and allocate nothing -/
example : (C17.histK ((RDesc.consec (.owned .u8) .opt).grows (by decide)) (Region.default : (RDesc.consec (.owned .u8) .opt).R)
      [[1], [2], [3], [4], [5], [6], [7], [8], [9]] [1, 0] = [1, 2, 4, 4, 8, 8, 8, 8, 16]) ∧
    changes 0 (C17.histK ((RDesc.consec (.owned .u8) .opt).grows (by decide)) (Region.default : (RDesc.consec (.owned .u8) .opt).R)
      [[1], [2], [3], [4], [5], [6], [7], [8], [9]] [1, 0]) = 5 ∧
    changes 0 (C17.histK ((RDesc.consec (.owned .u8) .opt).grows (by decide)) (Region.default : (RDesc.consec (.owned .u8) .opt).R)
      [[1], [2], [3], [4], [5], [6], [7], [8], [9]] [0, 0]) = 0 := by decide

end Examples
end FC.Universe
