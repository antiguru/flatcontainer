import FlatModel.Props.C01
/-! C11: CollapseSequence collapses exactly consecutive equal items (`C11.hit_or_miss`, from which the laws
of `CollapseSequence` are proved, is in Proofs/Collapse.lean). C12 for `ConsecutiveIndexPairs`: dense
indices (`C12.count`, `C12.kth`; the columns half is in Props/C12.lean). -/
namespace FC
open Region

namespace C11
variable {R V I : Type} [Region R V I] [HasEqv V] [LawfulRegion R]

/-- nothing is remembered in a fresh or cleared region (`last = none`, the miss case of `hit_or_miss`) -/
theorem forgets_on_reset (r : CollapseSequence R I) :
    (Region.default : CollapseSequence R I).last = none ∧ (clear r).last = none := ⟨rfl, rfl⟩

/-- under the invariant an accepted push succeeds, and the index it returns reads an item that the
pushed item is `==` to, or that is `same` as it in the inner region's sense (`push_ok` of the instance) -/
theorem only_equal (r : CollapseSequence R I) (v : V) (hi : Inv r) (ha : Accepts r v) :
    ∃ r' i, push r v = some (r', i) ∧ ∃ u, index r' i = some u ∧
      (same (R := R) u v ∨ HasEqv.eqv v u = true) :=
  LawfulRegion.push_ok r v hi ha

/-- whatever a push does, the region afterwards remembers exactly the index it just returned -/
theorem last_tracks (r r' : CollapseSequence R I) (v : V) (i : I) (hi : Inv r)
    (hp : push r v = some (r', i)) : r'.last = some i := by
  rcases CollapseSequence.of_push_eq_some hp with ⟨rfl, h⟩ | ⟨-, h⟩
  · exact h
  · exact h

/-- **C11 over two adjacent pushes**: the second of any two consecutive successful pushes is
collapsed *iff* it is `==` the item the first one's index reads — the decision depends on nothing
else (not on older items, not on how the first push itself was resolved). Collapsed: same index,
state literally unchanged. Not collapsed: stored in the inner region under the index returned. -/
theorem adjacent (r r1 r2 : CollapseSequence R I) (v w : V) (i j : I) (hi : Inv r)
    (h1 : push r v = some (r1, i)) (h2 : push r1 w = some (r2, j)) :
    ∃ u, index r1 i = some u ∧
      ((HasEqv.eqv w u = true ∧ j = i ∧ r2 = r1) ∨
       (HasEqv.eqv w u = false ∧ push r1.inner w = some (r2.inner, j) ∧ r2.last = some j)) := by
  have hl := last_tracks r r1 v i hi h1
  have hi1 := (LawfulRegion.push_post h1 hi).inv
  obtain ⟨u, hu⟩ := LawfulRegion.valid_reads r1.inner i hi1.1 (hi1.2 i hl)
  refine ⟨u, hu, ?_⟩
  rcases hit_or_miss r1 w hi1 with ⟨li, u', hl', hu', he, hpush⟩ | ⟨hne, hpush⟩
  · cases hl.symm.trans hl'
    cases hu.symm.trans hu'
    cases hpush.symm.trans h2
    exact Or.inl ⟨he, rfl, rfl⟩
  · obtain ⟨hq, hl2⟩ := CollapseSequence.pushMiss_eq_some.mp (hpush.symm.trans h2)
    exact Or.inr ⟨hne i u hl hu, hq, hl2⟩

/-- **C11 over histories**: after any sequence of successful pushes, started under the invariant, the remembered index
is the last index handed out (the one remembered before the sequence if it was empty). -/
theorem last_after_history (r r' : CollapseSequence R I) (vs : List V) (hi : Inv r)
    (h : C08.runPushes r vs = some r') : r'.last = ((C08.trace r vs).getLast?).or r.last := by
  induction vs generalizing r with
  | nil =>
    cases h
    simp [C08.trace]
  | cons v vs ih =>
    obtain ⟨r1, i, hp, h⟩ := runPushes_cons_eq_some.mp h
    rw [ih r1 (LawfulRegion.push_post hp hi).inv h, last_tracks r r1 v i hi hp, trace_cons_of_push hp]
    cases ht : C08.trace r1 vs with
    | nil => simp
    | cons j t => simp [List.getLast?_eq_some_getLast (List.cons_ne_nil j t)]
end C11

namespace C12
variable {R V O : Type} [Region R V (Nat × Nat)] [DenseRegion R] [IdxCont O Nat]
  [LawfulRegion R] [LawfulDense R] [LawfulIdxCont O]

/-- number of items pushed since creation / clear -/
def count (r : ConsecPairs R O) : Nat := (IdxCont.iter r.indices).length - 1

omit [LawfulRegion R] [LawfulDense R] in
theorem count_default : count (Region.default : ConsecPairs R O) = 0 := by
  rw [count, consec_iter_default]
  rfl

omit [LawfulRegion R] [LawfulDense R] in
theorem count_clear (r : ConsecPairs R O) : count (clear r) = 0 := by
  rw [count, consec_iter_clear]
  rfl

/-- **C12**: under the invariant a push returns the current `count` and advances it by one; `count` is 0 at
creation and after `clear` (`count_default`, `count_clear`), which makes the k-th push since then return k -/
theorem kth (r r' : ConsecPairs R O) (v : V) (k : Nat) (hi : Inv r) (hp : push r v = some (r', k)) :
    k = count r ∧ count r' = count r + 1 := by
  obtain ⟨_, hit, _, _, hk⟩ := ConsecPairs.push_eq_some_of_inv r r' v k hi hp
  have := consec_iter_pos hi
  refine ⟨hk, ?_⟩
  simp only [count, hit, List.length_append, List.length_singleton]
  omega
end C12

end FC
