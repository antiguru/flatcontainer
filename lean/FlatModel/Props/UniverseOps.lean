import FlatModel.Props.Universe
import FlatModel.Props.C09
import FlatModel.Props.C12
/-! The non-`push` half of the traits, for every composition.

`Props/Universe.lean` interprets a description `d : RDesc v ix` as a model type `d.R` with its `Region`
and `LawfulRegion` instances. Here the interpretation is extended, by the same structural recursion,
with the `RegionAux` instance (`reserve_items`, `reserve_regions`, `merge_regions`, `clone`,
`clone_from`, `heap_size`) of `d.R` — *the same type*, not a copy: every extension is a function
`(d : RDesc v ix) → C d.R` — and with the laws `LawfulAux` / `LawfulMerge` / `DenseSim` of
`Proofs/OpsLaws.lean`. C09 and C10 (and `Reach` / `reach_inv`) become theorems `∀ d : RDesc v ix`.

Sub-universes are decidable predicates on descriptions:
* `d.Uncoded`: no `codec`, `huffman`, `huffmanU8` anywhere in `d`. It is needed for `LawfulMerge` only
  (hence for `Reach` / `reach_inv`, whose `merge` rule needs it): `merge_regions` of a coded region builds
  a new dictionary / code book from the statistics of its sources, so the result is *not* observationally
  a default region — `huffman_not_lawfulMerge`, `huffmanU8_not_lawfulMerge` below refute the law for the
  Huffman containers outright; `Proofs/OpsLaws.lean` has no `LawfulMerge Codec.Region` either.
  `LawfulAux` (clone, clone_from, the two reservations) and `DenseSim` hold for the coded regions too,
  trivially (`Proofs/OpsLaws.lean` does not import the coded regions: `LawfulAux` for the three and
  `DenseSim Codec.Region` are here, `DenseSim` for the Huffman containers in `Proofs/HuffRegion.lean`), so C09
  and the reservation half of C10 are stated for *every* description — in the states `Reachable` from a new
  region by pushes and clears. A coded region gets its dictionary / code book from `merge_regions` only, which
  is not among these operations: for `codec`, `huffman`, `huffmanU8` those are the states with an empty
  dictionary / in raw mode. For other states of a coded composition there are `C09_sim_every_composition` and
  `C01_every_composition` / `C02_every_composition`, which assume `Inv r`; `reach_inv_every_composition`, the
  theorem that supplies `Inv`, is for uncoded descriptions. (`reserve_regions` of a Huffman container is
  `todo!()` in the crate; the model's is the identity.)

Element sizes. `RegionAux (OwnedRegion T)` / `(VecRegion T)` need `ElemSize T`, `RegionAux
(CollapseSequence R I)` needs `IndexSize I`, `RegionAux (ColumnsRegion R I O)` needs `ElemSize I`; the
model has these instances for the catalogued shapes only. Rather than restricting the payload shapes,
everything here is parametric in a *size assignment* `[SizeEnv]` (an `ElemSize` and an `IndexSize`
for every shape): the theorems hold for every assignment. `SizeEnv.std` is the assignment that agrees
with the model's instances wherever they exist (checked by `rfl` below) and uses `Ty.size` for the
other shapes, the convention of `IdxKind.vecStd`. -/
namespace FC.Universe
open FC Region

/-- `size_of::<T>()` for every payload shape and `size_of::<I>()`, `size_of::<Option<I>>()` for every
index shape. No law depends on the numbers; they only appear in `heap` and `selfSize`. -/
class SizeEnv where
  elem : (t : Ty) → ElemSize t.interp
  index : (t : Ty) → IndexSize t.interp

/-- `size_of::<Option<T>>()` as the model's `IndexSize` instances have it -/
def Ty.optSize : Ty → Nat
  | .unit => 1
  | t => t.size + 8

@[instance_reducible] def SizeEnv.std : SizeEnv where
  elem t := ⟨t.size⟩
  index t := ⟨t.size, t.optSize⟩

section StdAgrees
-- every `ElemSize` / `IndexSize` instance of `Model/Ops.lean` is the one `SizeEnv.std` assigns
example : SizeEnv.std.elem .u8 = (inferInstance : ElemSize UInt8) := rfl
example : SizeEnv.std.elem .nat = (inferInstance : ElemSize Nat) := rfl
example : SizeEnv.std.elem .unit = (inferInstance : ElemSize Unit) := rfl
example : SizeEnv.std.elem .bytes = (inferInstance : ElemSize (List UInt8)) := rfl
example : SizeEnv.std.elem .range = (inferInstance : ElemSize (Nat × Nat)) := rfl
example : SizeEnv.std.elem (.pair .range (.pair .u8 .unit)) = (inferInstance : ElemSize ((Nat × Nat) × (UInt8 × Unit))) := rfl
example : SizeEnv.std.index .nat = (inferInstance : IndexSize Nat) := rfl
example : SizeEnv.std.index .range = (inferInstance : IndexSize (Nat × Nat)) := rfl
example : SizeEnv.std.index .f64 = (inferInstance : IndexSize F64) := rfl
example : SizeEnv.std.index .unit = (inferInstance : IndexSize Unit) := rfl
end StdAgrees

structure IdxOps {T : Type} (o : IdxBundle T) where
  [aux : IdxAux o.O]
  [lawfulAux : LawfulIdxAux o.O]

def IdxKind.ops : {i : Ty} → (k : IdxKind i) → IdxOps k.bundle
  | i, .vec sz => @IdxOps.mk _ (IdxKind.vec sz).bundle
      (inferInstanceAs (IdxAux (Capd (VecIdx i.interp sz)))) (inferInstanceAs (LawfulIdxAux (Capd (VecIdx i.interp sz))))
  | _, .opt => @IdxOps.mk _ IdxKind.opt.bundle
      (inferInstanceAs (IdxAux (Capd IndexOptimized))) (inferInstanceAs (LawfulIdxAux (Capd IndexOptimized)))
  | _, .list => @IdxOps.mk _ IdxKind.list.bundle
      (inferInstanceAs (IdxAux (Capd IndexList))) (inferInstanceAs (LawfulIdxAux (Capd IndexList)))


section Aux
variable [σ : SizeEnv]

@[instance_reducible] def RDesc.aux : {v : Ty} → {ix : Ix} → (d : RDesc v ix) → RegionAux d.R
  | _, _, .mirror t => inferInstanceAs (RegionAux (MirrorRegion t.interp))
  | _, _, .owned t => letI := σ.elem t; inferInstanceAs (RegionAux (OwnedRegion t.interp))
  | _, _, .vec t => letI := σ.elem t; inferInstanceAs (RegionAux (VecRegion t.interp))
  | _, .any i, .string d =>
    letI : Region d.R (List UInt8) i.interp := d.bundle.inst
    letI : RegionAux d.R := d.aux
    inferInstanceAs (RegionAux (StringRegion d.R))
  | _, .dense, .string d =>
    letI : Region d.R (List UInt8) (Nat × Nat) := d.bundle.inst
    letI : RegionAux d.R := d.aux
    inferInstanceAs (RegionAux (StringRegion d.R))
  | _, _, .option d => letI := d.aux; inferInstanceAs (RegionAux (OptionRegion d.R))
  | _, _, .result t e => letI := t.aux; letI := e.aux; inferInstanceAs (RegionAux (ResultRegion t.R e.R))
  | _, _, .tupleNil => inferInstanceAs (RegionAux TupleNil)
  | _, _, .tupleCons a b => letI := a.aux; letI := b.aux; inferInstanceAs (RegionAux (TupleCons a.R b.R))
  | v, _, .collapse (ix := ix) d =>
    letI := v.hasEqv; letI := σ.index ix.ty; letI := d.aux
    inferInstanceAs (RegionAux (CollapseSequence d.R ix.ty.interp))
  | _, _, .slice d k => letI := d.aux; letI := k.ops.aux; inferInstanceAs (RegionAux (SliceRegion d.R k.bundle.O))
  | _, _, .consec d k =>
    letI : RegionAux d.bundleX.R := d.aux
    letI := k.ops.aux
    inferInstanceAs (RegionAux (ConsecPairs d.bundleX.R k.bundle.O))
  | _, _, .columns (ix := ix) d k =>
    letI := σ.elem ix.ty; letI := d.aux; letI := k.ops.aux
    inferInstanceAs (RegionAux (ColumnsRegion d.R ix.ty.interp k.bundle.O))
  | _, _, .codec => inferInstanceAs (RegionAux Codec.Region)
  | _, _, .huffman => inferInstanceAs (RegionAux Huff.Container)
  | _, _, .huffmanU8 => inferInstanceAs (RegionAux HuffU8)
  | _, _, .stack d k => letI := d.aux; letI := k.ops.aux; inferInstanceAs (RegionAux (FlatStack d.R k.bundle.O))

instance regionAux {v : Ty} {ix : Ix} (d : RDesc v ix) : RegionAux d.R := d.aux

end Aux

def RDesc.Uncoded : {v : Ty} → {ix : Ix} → RDesc v ix → Prop
  | _, _, .mirror _ => True
  | _, _, .owned _ => True
  | _, _, .vec _ => True
  | _, _, .string d => d.Uncoded
  | _, _, .option d => d.Uncoded
  | _, _, .result t e => t.Uncoded ∧ e.Uncoded
  | _, _, .tupleNil => True
  | _, _, .tupleCons a b => a.Uncoded ∧ b.Uncoded
  | _, _, .collapse d => d.Uncoded
  | _, _, .slice d _ => d.Uncoded
  | _, _, .consec d _ => d.Uncoded
  | _, _, .columns d _ => d.Uncoded
  | _, _, .codec => False
  | _, _, .huffman => False
  | _, _, .huffmanU8 => False
  | _, _, .stack d _ => d.Uncoded

instance RDesc.decUncoded : {v : Ty} → {ix : Ix} → (d : RDesc v ix) → Decidable d.Uncoded
  | _, _, .mirror _ => isTrue trivial
  | _, _, .owned _ => isTrue trivial
  | _, _, .vec _ => isTrue trivial
  | _, _, .string d => d.decUncoded
  | _, _, .option d => d.decUncoded
  | _, _, .result t e => @instDecidableAnd _ _ t.decUncoded e.decUncoded
  | _, _, .tupleNil => isTrue trivial
  | _, _, .tupleCons a b => @instDecidableAnd _ _ a.decUncoded b.decUncoded
  | _, _, .collapse d => d.decUncoded
  | _, _, .slice d _ => d.decUncoded
  | _, _, .consec d _ => d.decUncoded
  | _, _, .columns d _ => d.decUncoded
  | _, _, .codec => isFalse id
  | _, _, .huffman => isFalse id
  | _, _, .huffmanU8 => isFalse id
  | _, _, .stack d _ => d.decUncoded

/-! ### the coded regions: `clone` and the reservations are identities

`Proofs/OpsLaws.lean` does not import the coded regions. `LawfulAux` (not `LawfulMerge`) holds for the
coded ones too, trivially: `reserve_*` are no-ops, `clone` is the identity in a pure model. -/
section Coded
instance : LawfulAux Codec.Region where
  reserveItems_sim r _ hi := ⟨LawfulRegion.sim_refl r hi, hi⟩
  reserveRegions_sim r _ hi _ := ⟨LawfulRegion.sim_refl r hi, hi⟩
  clone_sim r hi := ⟨LawfulRegion.sim_refl r hi, hi⟩
  cloneFrom_sim _ s _ hs := ⟨LawfulRegion.sim_refl s hs, hs⟩
instance : LawfulAux Huff.Container where
  reserveItems_sim r _ hi := ⟨LawfulRegion.sim_refl r hi, hi⟩
  reserveRegions_sim r _ hi _ := ⟨LawfulRegion.sim_refl r hi, hi⟩
  clone_sim r hi := ⟨LawfulRegion.sim_refl r hi, hi⟩
  cloneFrom_sim _ s _ hs := ⟨LawfulRegion.sim_refl s hs, hs⟩
instance : LawfulAux HuffU8 where
  reserveItems_sim r _ hi := ⟨LawfulRegion.sim_refl r hi, hi⟩
  reserveRegions_sim r _ hi _ := ⟨LawfulRegion.sim_refl r hi, hi⟩
  clone_sim r hi := ⟨LawfulRegion.sim_refl r hi, hi⟩
  cloneFrom_sim _ s _ hs := ⟨LawfulRegion.sim_refl s hs, hs⟩
instance : DenseSim Codec.Region where
  cursor_sim a b h := by simp only [DenseRegion.cursor, h.1]

/-- why `merge` needs the sub-universe: a merged Huffman container is in coded mode (an empty code
book) even when merged from nothing, a default one is in raw mode, and `Sim` is equality -/
theorem huffman_not_lawfulMerge : ¬ LawfulMerge Huff.Container := by
  intro h
  have h1 : (RegionAux.mergeRegions ([] : List Huff.Container)) = (Region.default : Huff.Container) :=
    (h.merge_fresh [] (by simp)).1
  have h2 := congrArg Huff.Container.coded h1
  simp [RegionAux.mergeRegions, Huff.Container.merge, Region.default, Huff.Container.default] at h2

theorem huffmanU8_not_lawfulMerge : ¬ LawfulMerge HuffU8 := by
  intro h
  have h1 : (RegionAux.mergeRegions ([] : List HuffU8)).c = (Region.default : HuffU8).c :=
    (h.merge_fresh [] (by simp)).1
  have h2 := congrArg Huff.Container.coded h1
  simp [RegionAux.mergeRegions, Huff.Container.merge, Region.default, Huff.Container.default] at h2
end Coded

section Laws
variable [σ : SizeEnv]

omit σ in
theorem RDesc.denseSim : {v : Ty} → (d : RDesc v .dense) → DenseSim d.bundleX.R
  | _, .owned t => inferInstanceAs (DenseSim (OwnedRegion t.interp))
  | _, .string d =>
    letI : Region d.bundleX.R (List UInt8) (Nat × Nat) := d.bundleX.inst
    letI : DenseRegion d.bundleX.R := d.bundleX.dense
    letI : DenseSim d.bundleX.R := d.denseSim
    inferInstanceAs (DenseSim (StringRegion d.bundleX.R))
  | _, .slice d k =>
    letI := k.ops.aux; letI := k.ops.lawfulAux
    inferInstanceAs (DenseSim (SliceRegion d.R k.bundle.O))
  | _, .codec => inferInstanceAs (DenseSim Codec.Region)
  | _, .huffman => inferInstanceAs (DenseSim Huff.Container)
  | _, .huffmanU8 => inferInstanceAs (DenseSim HuffU8)

theorem RDesc.lawfulAux : {v : Ty} → {ix : Ix} → (d : RDesc v ix) → LawfulAux d.R
  | _, _, .mirror t => inferInstanceAs (LawfulAux (MirrorRegion t.interp))
  | _, _, .owned t => letI := σ.elem t; inferInstanceAs (LawfulAux (OwnedRegion t.interp))
  | _, _, .vec t => letI := σ.elem t; inferInstanceAs (LawfulAux (VecRegion t.interp))
  | _, .any i, .string d =>
    letI : Region d.R (List UInt8) i.interp := d.bundle.inst
    letI : RegionAux d.R := d.aux
    letI : LawfulAux d.R := d.lawfulAux
    inferInstanceAs (LawfulAux (StringRegion d.R))
  | _, .dense, .string d =>
    letI : Region d.R (List UInt8) (Nat × Nat) := d.bundle.inst
    letI : RegionAux d.R := d.aux
    letI : LawfulAux d.R := d.lawfulAux
    inferInstanceAs (LawfulAux (StringRegion d.R))
  | _, _, .option d => letI := d.lawfulAux; inferInstanceAs (LawfulAux (OptionRegion d.R))
  | _, _, .result t e => letI := t.lawfulAux; letI := e.lawfulAux; inferInstanceAs (LawfulAux (ResultRegion t.R e.R))
  | _, _, .tupleNil => inferInstanceAs (LawfulAux TupleNil)
  | _, _, .tupleCons a b => letI := a.lawfulAux; letI := b.lawfulAux; inferInstanceAs (LawfulAux (TupleCons a.R b.R))
  | v, _, .collapse (ix := ix) d =>
    letI := v.hasEqv; letI := σ.index ix.ty; letI := d.lawfulAux
    inferInstanceAs (LawfulAux (CollapseSequence d.R ix.ty.interp))
  | _, _, .slice d k =>
    letI := d.lawfulAux; letI := k.ops.aux; letI := k.ops.lawfulAux
    inferInstanceAs (LawfulAux (SliceRegion d.R k.bundle.O))
  | _, _, .consec d k =>
    letI : RegionAux d.bundleX.R := d.aux
    letI : LawfulAux d.bundleX.R := d.lawfulAux
    letI := d.denseSim; letI := k.ops.aux; letI := k.ops.lawfulAux
    inferInstanceAs (LawfulAux (ConsecPairs d.bundleX.R k.bundle.O))
  | _, _, .columns (ix := ix) d k =>
    letI := σ.elem ix.ty; letI := d.lawfulAux; letI := k.ops.aux; letI := k.ops.lawfulAux
    inferInstanceAs (LawfulAux (ColumnsRegion d.R ix.ty.interp k.bundle.O))
  | _, _, .codec => inferInstanceAs (LawfulAux Codec.Region)
  | _, _, .huffman => inferInstanceAs (LawfulAux Huff.Container)
  | _, _, .huffmanU8 => inferInstanceAs (LawfulAux HuffU8)
  | _, _, .stack d k =>
    letI := d.lawfulAux; letI := k.ops.aux; letI := k.ops.lawfulAux
    inferInstanceAs (LawfulAux (FlatStack d.R k.bundle.O))

theorem RDesc.lawfulMerge : {v : Ty} → {ix : Ix} → (d : RDesc v ix) → d.Uncoded → LawfulMerge d.R
  | _, _, .mirror t, _ => inferInstanceAs (LawfulMerge (MirrorRegion t.interp))
  | _, _, .owned t, _ => letI := σ.elem t; inferInstanceAs (LawfulMerge (OwnedRegion t.interp))
  | _, _, .vec t, _ => letI := σ.elem t; inferInstanceAs (LawfulMerge (VecRegion t.interp))
  | _, .any i, .string d, h =>
    letI : Region d.R (List UInt8) i.interp := d.bundle.inst
    letI : RegionAux d.R := d.aux
    letI : LawfulMerge d.R := d.lawfulMerge h
    inferInstanceAs (LawfulMerge (StringRegion d.R))
  | _, .dense, .string d, h =>
    letI : Region d.R (List UInt8) (Nat × Nat) := d.bundle.inst
    letI : RegionAux d.R := d.aux
    letI : LawfulMerge d.R := d.lawfulMerge h
    inferInstanceAs (LawfulMerge (StringRegion d.R))
  | _, _, .option d, h => letI := d.lawfulMerge h; inferInstanceAs (LawfulMerge (OptionRegion d.R))
  | _, _, .result t e, h =>
    letI := t.lawfulMerge h.1; letI := e.lawfulMerge h.2; inferInstanceAs (LawfulMerge (ResultRegion t.R e.R))
  | _, _, .tupleNil, _ => inferInstanceAs (LawfulMerge TupleNil)
  | _, _, .tupleCons a b, h =>
    letI := a.lawfulMerge h.1; letI := b.lawfulMerge h.2; inferInstanceAs (LawfulMerge (TupleCons a.R b.R))
  | v, _, .collapse (ix := ix) d, h =>
    letI := v.hasEqv; letI := σ.index ix.ty; letI := d.lawfulMerge h
    inferInstanceAs (LawfulMerge (CollapseSequence d.R ix.ty.interp))
  | _, _, .slice d k, h =>
    letI := d.lawfulMerge h; letI := k.ops.aux; letI := k.ops.lawfulAux
    inferInstanceAs (LawfulMerge (SliceRegion d.R k.bundle.O))
  | _, _, .consec d k, h =>
    letI : RegionAux d.bundleX.R := d.aux
    letI : LawfulMerge d.bundleX.R := d.lawfulMerge h
    letI := d.denseSim; letI := k.ops.aux; letI := k.ops.lawfulAux
    inferInstanceAs (LawfulMerge (ConsecPairs d.bundleX.R k.bundle.O))
  | _, _, .columns (ix := ix) d k, h =>
    letI := σ.elem ix.ty; letI := d.lawfulMerge h; letI := k.ops.aux; letI := k.ops.lawfulAux
    inferInstanceAs (LawfulMerge (ColumnsRegion d.R ix.ty.interp k.bundle.O))
  | _, _, .stack d k, h =>
    letI := d.lawfulMerge h; letI := k.ops.aux; letI := k.ops.lawfulAux
    inferInstanceAs (LawfulMerge (FlatStack d.R k.bundle.O))

instance lawfulAuxInst {v : Ty} {ix : Ix} (d : RDesc v ix) : LawfulAux d.R := d.lawfulAux

end Laws

section Props
variable [SizeEnv] {v : Ty} {ix : Ix}

/-- **C09 for every composition** (coded ones included, in the states named next): in every state
reached from a new region by pushes and clears (`Reachable`; for a coded region that is before any
`merge_regions`, hence with an empty dictionary / in raw mode) a clone, and a `clone_from` into a
destination with arbitrary prior contents reached the same way, satisfies the invariant and
is observationally the source: equal reads at every valid index, and after any sequence of further
pushes equal returned indices, equal refusals and equal reads again. (Independence of the two
values is immediate in a pure model: no operation on one mentions the other.) -/
theorem C09_every_composition (d : RDesc v ix) (r : d.R) (hr : Reachable r) :
    (Inv (RegionAux.clone r) ∧ ObsEq (RegionAux.clone r) r) ∧
    ∀ dst : d.R, Reachable dst → Inv (RegionAux.cloneFrom dst r) ∧ ObsEq (RegionAux.cloneFrom dst r) r :=
  ⟨⟨(C09.clone_equal r hr).2, C09.clone_observe r hr⟩,
   fun dst hd => ⟨(C09.cloneFrom_equal dst r hd hr).2, C09.cloneFrom_observe dst r hd hr⟩⟩

/-- the `Sim` form of C09 (the bisimulation of `LawfulRegion`), under the bare invariant -/
theorem C09_sim_every_composition (d : RDesc v ix) (r dst : d.R) (hi : Inv r) (hd : Inv dst) :
    (Sim (RegionAux.clone r) r ∧ Inv (RegionAux.clone r)) ∧
    (Sim (RegionAux.cloneFrom dst r) r ∧ Inv (RegionAux.cloneFrom dst r)) :=
  ⟨LawfulAux.clone_sim r hi, LawfulAux.cloneFrom_sim dst r hd hi⟩

/-- **C10 (reservations) for every composition** (coded ones included; for the Huffman containers
`reserve_regions` is `todo!()` in the crate and the identity in the model): in every state reached
from a new region by pushes and clears (`Reachable`), `reserve_items` with arbitrary (also wrong)
announcements and `reserve_regions` over arbitrary sources reached the same way change nothing
observable -/
theorem C10_every_composition (d : RDesc v ix) (r : d.R) (hr : Reachable r) :
    (∀ vs : List v.interp, ObsEq (RegionAux.reserveItems r vs) r) ∧
    (∀ rs : List d.R, (∀ x ∈ rs, Reachable x) → ObsEq (RegionAux.reserveRegions r rs) r) :=
  ⟨C10.reserveItems_invisible r hr, C10.reserveRegions_invisible r hr⟩

/-- **C10 (merge) for every uncoded composition**: a region made by `merge_regions` from any
sources reached by pushes and clears (`Reachable`; sources reached through the whole API:
`C09_C10_reach_every_composition`) satisfies the invariant and is observationally a default (empty,
working) one -/
theorem C10_merge_every_composition (d : RDesc v ix) (hu : d.Uncoded) (rs : List d.R) (hrs : ∀ x ∈ rs, Reachable x) :
    Inv (RegionAux.mergeRegions rs : d.R) ∧ ObsEq (RegionAux.mergeRegions rs) (Region.default : d.R) :=
  have := d.lawfulMerge hu
  ⟨(LawfulMerge.merge_fresh rs fun x hx => reachable_inv x (hrs x hx)).2, C10.merge_fresh rs hrs⟩

/-- a merged region is as empty as a default one: the same indices are valid -/
theorem C10_merged_empty (d : RDesc v ix) (hu : d.Uncoded) (rs : List d.R) (hrs : ∀ x ∈ rs, Reachable x)
    (j : ix.ty.interp) : Valid (RegionAux.mergeRegions rs : d.R) j ↔ Valid (Region.default : d.R) j :=
  ((C10_merge_every_composition d hu rs hrs).2.1 j).1

/-- **`reach_inv` for every uncoded composition**: the representation invariant holds in every state
reachable through the whole API (creation, push, clear, both reservation calls, merge, clone,
clone_from, from regions obtained the same way) -/
theorem reach_inv_every_composition (d : RDesc v ix) (hu : d.Uncoded) (r : d.R) (h : Reach r) : Inv r :=
  have := d.lawfulMerge hu
  reach_inv r h

/-- hence C01 there … -/
theorem C01_reach_every_composition (d : RDesc v ix) (hu : d.Uncoded) (r : d.R) (hr : Reach r) (x : v.interp)
    (ha : Accepts r x) : ∃ r' j, push r x = some (r', j) ∧ ∃ x', index r' j = some x' ∧ same (R := d.R) x' x :=
  have := d.lawfulMerge hu
  C01.roundtrip_reach r hr x ha

/-- … and C02 across the reservation calls: they keep every issued index reading the same item -/
theorem C02_reserve_every_composition (d : RDesc v ix) (hu : d.Uncoded) (r : d.R) (hr : Reach r) (j : ix.ty.interp)
    (hv : Valid r j) :
    (∀ vs, Valid (RegionAux.reserveItems r vs) j ∧ index (RegionAux.reserveItems r vs) j = index r j) ∧
    (∀ rs : List d.R, (∀ x ∈ rs, Reach x) →
      Valid (RegionAux.reserveRegions r rs) j ∧ index (RegionAux.reserveRegions r rs) j = index r j) :=
  have := d.lawfulMerge hu
  C02.frame_reserve r hr j hv

/-- C09 and C10 in every state reachable through the whole API (uncoded compositions) -/
theorem C09_C10_reach_every_composition (d : RDesc v ix) (hu : d.Uncoded) (r : d.R) (hr : Reach r) :
    ObsEq (RegionAux.clone r) r ∧
    (∀ dst : d.R, Reach dst → ObsEq (RegionAux.cloneFrom dst r) r) ∧
    (∀ vs : List v.interp, ObsEq (RegionAux.reserveItems r vs) r) ∧
    (∀ rs : List d.R, (∀ x ∈ rs, Reach x) → ObsEq (RegionAux.reserveRegions r rs) r) ∧
    (∀ rs : List d.R, (∀ x ∈ rs, Reach x) → ObsEq (RegionAux.mergeRegions rs) (Region.default : d.R)) := by
  have := d.lawfulMerge hu
  have hi := reach_inv r hr
  exact ⟨sim_observe (LawfulAux.clone_sim r hi) hi,
    fun dst hd => sim_observe (LawfulAux.cloneFrom_sim dst r (reach_inv dst hd) hi) hi,
    fun vs => sim_observe (LawfulAux.reserveItems_sim r vs hi) hi,
    fun rs hrs => sim_observe (LawfulAux.reserveRegions_sim r rs hi fun x hx => reach_inv x (hrs x hx)) hi,
    fun rs hrs => sim_observe (LawfulMerge.merge_fresh rs fun x hx => reach_inv x (hrs x hx)) LawfulRegion.inv_default⟩

/-- **C10 for every `FlatStack`**: `FlatStack::reserve` is invisible on a stack reached from a new
one by pushes (copies) and clears (`Reachable`), and `FlatStack::with_capacity` is a default stack,
over every region description and every index container -/
theorem C10_stack_every_composition (d : RDesc v ix) (k : IdxKind ix.ty) :
    letI := k.ops.aux
    (∀ (fs : FlatStack d.R k.bundle.O), Reachable fs → ∀ n, ObsEq (fs.reserve n) fs) ∧
    (∀ n, ObsEq (FlatStack.withCapacity n : FlatStack d.R k.bundle.O) (Region.default : FlatStack d.R k.bundle.O)) :=
  letI := k.ops.aux
  haveI := k.ops.lawfulAux
  ⟨C10.stack_reserve_invisible, C10.stack_withCapacity_default⟩

/-- **C12 across merge, for every `ConsecutiveIndexPairs`**: a region made by `merge_regions` starts
counting at 0, whatever it was merged from -/
theorem C12_merge_every_consec (d : RDesc v .dense) (k : IdxKind .nat) (rs : List (RDesc.consec d k).R) :
    C12.count (RegionAux.mergeRegions rs : (RDesc.consec d k).R) = 0 :=
  letI : RegionAux d.bundleX.R := d.aux
  letI := k.ops.aux
  C12.count_merge (R := d.bundleX.R) (O := k.bundle.O) rs

end Props

/-! ### non-vacuity and agreement with instance resolution -/
section Examples

theorem populated {R V I : Type} [Region R V I] (ops : List (Op V)) (j : I) (x : V)
    (h : (run (Region.default : R) ops).bind (fun r => index r j) = some x) :
    ∃ r : R, Reachable r ∧ index r j = some x := by
  cases hr : run (Region.default : R) ops with
  | none => simp [hr] at h
  | some r => exact ⟨r, ⟨ops, hr⟩, by simpa [hr] using h⟩

abbrev exColumns : RDesc (.list .bytes) (.any .nat) := .columns (.collapse (.consec str .opt)) .opt
abbrev exStack : RDesc .bytes (.any .nat) := .stack (.consec (.owned .u8) .list) .opt
abbrev exTuple : RDesc (.pair (.opt .bytes) (.pair (.res (.list .nat) .nat) .unit))
    (.any (.pair (.opt .range) (.pair (.res .range .nat) .unit))) :=
  .tupleCons (.option str) (.tupleCons (.result (.owned .nat) (.mirror .nat)) .tupleNil)
abbrev exSlice : RDesc (.list (.list .bytes)) .dense := .slice (.slice str pairIdx) pairIdx
abbrev exCollapse : RDesc .f64 (.any .f64) := .collapse (.mirror .f64)
abbrev exResult : RDesc (.res (.list .nat) .bytes) (.any .nat) := .stack (.result (.slice (.mirror .nat) (.vec 1)) str) .vecStd
/-- a shape for which the model has no `ElemSize` instance: `OwnedRegion<Option<f64>>` -/
abbrev exOddSize : RDesc (.list (.list (.opt .f64))) .dense := .slice (.owned (.opt .f64)) pairIdx
abbrev exCodec : RDesc .bytes (.any .nat) := .stack (.consec .codec .opt) .list
abbrev exHuff : RDesc (.list (.list .u8)) .dense := .slice .huffmanU8 pairIdx

example : exColumns.Uncoded := by decide
example : exStack.Uncoded := by decide
example : exTuple.Uncoded := by decide
example : exSlice.Uncoded := by decide
example : exCollapse.Uncoded := by decide
example : exResult.Uncoded := by decide
example : exOddSize.Uncoded := by decide
example : ¬ exCodec.Uncoded := by decide
example : ¬ exHuff.Uncoded := by decide

-- the extension is over the *same* type as `Universe.lean` interprets the description by
example {v : Ty} {ix : Ix} (d : RDesc v ix) [SizeEnv] : RegionAux d.bundle.R := d.aux
example {v : Ty} {ix : Ix} (d : RDesc v ix) [SizeEnv] : @LawfulAux d.bundle.R _ _ d.bundle.inst d.aux := d.lawfulAux

section Std
attribute [local instance] SizeEnv.std

section Agrees
-- sealed: both sides are towers of the same instances, and the unifier should compare them argument by argument
-- instead of unfolding the right-hand side into structure literals (`d.bundle.inst` is a projection application)
attribute [local irreducible] instRegionMirrorRegion instRegionOwnedRegionListProdNat instRegionVecRegionNat instRegionStringRegionListUInt8 instRegionOptionRegionOption instRegionResultRegionExcept
  instRegionTupleNilUnit instRegionTupleConsProd instRegionCollapseSequenceOfHasEqv instRegionSliceRegionListProdNat instRegionConsecPairsNatOfDenseRegionOfIdxCont
  instRegionColumnsRegionListNat instRegionRegionListUInt8ProdNat instRegionContainerListNatProd instRegionHuffU8ListUInt8ProdNat instRegionFlatStackNat
example : exColumns.aux = (inferInstance : RegionAux (ColumnsRegion (CollapseSequence (ConsecPairs
    (StringRegion (OwnedRegion UInt8)) (Capd IndexOptimized)) Nat) Nat (Capd IndexOptimized))) := rfl
example : exStack.aux = (inferInstance : RegionAux (FlatStack (ConsecPairs (OwnedRegion UInt8) (Capd IndexList))
    (Capd IndexOptimized))) := rfl
example : exTuple.aux = (inferInstance : RegionAux (TupleCons (OptionRegion (StringRegion (OwnedRegion UInt8)))
    (TupleCons (ResultRegion (OwnedRegion Nat) (MirrorRegion Nat)) TupleNil))) := rfl
example : exSlice.aux = (inferInstance : RegionAux (SliceRegion (SliceRegion (StringRegion (OwnedRegion UInt8))
    (Capd (VecIdx (Nat × Nat) 16))) (Capd (VecIdx (Nat × Nat) 16)))) := rfl
example : exCollapse.aux = (inferInstance : RegionAux (CollapseSequence (MirrorRegion F64) F64)) := rfl
example : exResult.aux = (inferInstance : RegionAux (FlatStack (ResultRegion (SliceRegion (MirrorRegion Nat)
    (Capd (VecIdx Nat 1))) (StringRegion (OwnedRegion UInt8))) (Capd (VecIdx (Except (Nat × Nat) (Nat × Nat)) 24)))) := rfl
example : exCodec.aux = (inferInstance : RegionAux (FlatStack (ConsecPairs Codec.Region (Capd IndexOptimized))
    (Capd IndexList))) := rfl
example : exHuff.aux = (inferInstance : RegionAux (SliceRegion HuffU8 (Capd (VecIdx (Nat × Nat) 16)))) := rfl
example : (RDesc.collapse (.columns (.vec .bytes) (.vec 8))).aux =
    (inferInstance : RegionAux (CollapseSequence (ColumnsRegion (VecRegion (List UInt8)) Nat (Capd (VecIdx Nat 8))) Nat)) := rfl
end Agrees

/-- rows `["hi", ""]`, `["hi"]` (collapsed in column 0), `[]` -/
theorem exColumns_populated : ∃ r : exColumns.R, Reachable r ∧ index r 1 = some [[104, 105]] :=
  populated [.push [[104, 105], []], .push [[104, 105]], .push []] 1 _ rfl
theorem exStack_populated : ∃ r : exStack.R, Reachable r ∧ index r 1 = some [3] :=
  populated [.push [1, 2], .clear, .push [], .push [3]] 1 _ rfl
theorem exTuple_populated : ∃ r : exTuple.R, Reachable r ∧
    index r (some (0, 2), (.error 7, ())) = some (some [1, 2], (.error 7, ())) :=
  populated [.push (some [1, 2], (.ok [5, 6], ())), .push (none, (.error 7, ()))] _ _ rfl
theorem exSlice_populated : ∃ r : exSlice.R, Reachable r ∧ index r (1, 3) = some [[], [[7]]] :=
  populated [.push [[[1], [2, 3]]], .push [[], [[7]]]] (1, 3) _ rfl
theorem exResult_populated : ∃ r : exResult.R, Reachable r ∧ index r 1 = some (.error [9]) :=
  populated [.push (.ok [1, 2, 3]), .push (.error [9])] 1 _ rfl
theorem exOddSize_populated : ∃ r : exOddSize.R, Reachable r ∧ index r (0, 1) = some [[none, some ⟨3⟩]] :=
  populated [.push [[none, some ⟨3⟩]]] (0, 1) _ rfl

example : ∃ r : exColumns.R, index r 1 = some [[104, 105]] ∧ ObsEq (RegionAux.clone r) r ∧
    ObsEq (RegionAux.reserveItems r [[[1]]]) r ∧ ObsEq (RegionAux.mergeRegions [r, r]) (Region.default : exColumns.R) := by
  obtain ⟨r, hr, hx⟩ := exColumns_populated
  exact ⟨r, hx, (C09_every_composition exColumns r hr).1.2, (C10_every_composition exColumns r hr).1 _,
    (C10_merge_every_composition exColumns (by decide) [r, r] (by simp [hr])).2⟩
example : ∃ r : exStack.R, index r 1 = some [3] ∧ ObsEq (RegionAux.cloneFrom (Region.default : exStack.R) r) r ∧
    ObsEq (RegionAux.reserveRegions r [r]) r ∧ Inv (RegionAux.mergeRegions [r] : exStack.R) := by
  obtain ⟨r, hr, hx⟩ := exStack_populated
  exact ⟨r, hx, ((C09_every_composition exStack r hr).2 _ ⟨[], rfl⟩).2, (C10_every_composition exStack r hr).2 [r] (by simp [hr]),
    (C10_merge_every_composition exStack (by decide) [r] (by simp [hr])).1⟩
example : ∃ r : exTuple.R, Reachable r ∧ ObsEq (RegionAux.clone r) r ∧
    ObsEq (RegionAux.mergeRegions [r]) (Region.default : exTuple.R) := by
  obtain ⟨r, hr, -⟩ := exTuple_populated
  exact ⟨r, hr, (C09_every_composition exTuple r hr).1.2, (C10_merge_every_composition exTuple (by decide) [r] (by simp [hr])).2⟩
example : ∃ r : exSlice.R, Reachable r ∧ ObsEq (RegionAux.clone r) r ∧
    ObsEq (RegionAux.mergeRegions [r]) (Region.default : exSlice.R) := by
  obtain ⟨r, hr, -⟩ := exSlice_populated
  exact ⟨r, hr, (C09_every_composition exSlice r hr).1.2, (C10_merge_every_composition exSlice (by decide) [r] (by simp [hr])).2⟩
example : ∃ r : exResult.R, Reachable r ∧ ObsEq (RegionAux.clone r) r ∧
    ObsEq (RegionAux.mergeRegions [r]) (Region.default : exResult.R) := by
  obtain ⟨r, hr, -⟩ := exResult_populated
  exact ⟨r, hr, (C09_every_composition exResult r hr).1.2, (C10_merge_every_composition exResult (by decide) [r] (by simp [hr])).2⟩
example : ∃ r : exOddSize.R, Reachable r ∧ ObsEq (RegionAux.clone r) r ∧
    ObsEq (RegionAux.mergeRegions [r]) (Region.default : exOddSize.R) := by
  obtain ⟨r, hr, -⟩ := exOddSize_populated
  exact ⟨r, hr, (C09_every_composition exOddSize r hr).1.2, (C10_merge_every_composition exOddSize (by decide) [r] (by simp [hr])).2⟩
/-- the coded compositions have C09 and the reservation half of C10 (their merged regions are not
default ones: no `C10_merge`) -/
example (r : exCodec.R) (hr : Reachable r) : ObsEq (RegionAux.clone r) r ∧ ∀ vs, ObsEq (RegionAux.reserveItems r vs) r :=
  ⟨(C09_every_composition exCodec r hr).1.2, (C10_every_composition exCodec r hr).1⟩
example : Reachable (Region.default : exCodec.R) := ⟨[], rfl⟩

example : ∃ r : exStack.R, Reach r ∧ index r 0 = some [1, 2] := by
  refine ⟨_, Reach.clone _ (Reach.push (RegionAux.reserveItems (RegionAux.mergeRegions
    [(Region.default : exStack.R)]) [[1, 2]]) _ [1, 2] 0 (Reach.reserveItems _ _ (Reach.merge _ ?_)) rfl), rfl⟩
  intro x hx
  simp only [List.mem_singleton] at hx
  subst hx
  exact Reach.default
example (r : exColumns.R) (hr : Reach r) : Inv r := reach_inv_every_composition exColumns (by decide) r hr
example (r : exTuple.R) (hr : Reach r) : Inv r := reach_inv_every_composition exTuple (by decide) r hr
example (r : exSlice.R) (hr : Reach r) : Inv r := reach_inv_every_composition exSlice (by decide) r hr
example (r : exResult.R) (hr : Reach r) : Inv r := reach_inv_every_composition exResult (by decide) r hr
example (r : exCollapse.R) (hr : Reach r) : Inv r := reach_inv_every_composition exCollapse (by decide) r hr

end Std
end Examples

end FC.Universe
