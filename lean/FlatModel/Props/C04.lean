import FlatModel.Props.C01
import FlatModel.Model.Coded
import FlatModel.Generated.SourceFacts
/-! C04: string regions only ever hand out valid UTF-8 equal to a pushed string. -/
namespace FC
open Region

section
variable {R V I : Type} [Region R V I] [LawfulRegion R]

def runIssued (r : R) (issued : List (I × V)) : List (Op V) → Option (R × List (I × V))
  | [] => some (r, issued)
  | .push v :: ops =>
    match push r v with
    | none => none
    | some (r', i) => runIssued r' (issued ++ [(i, v)]) ops
  | .clear :: ops => runIssued (clear r) [] ops

omit [LawfulRegion R] in
theorem runIssued_push_eq_some {r : R} {iss : List (I × V)} {v : V} {ops : List (Op V)} {q : R × List (I × V)} :
    runIssued r iss (.push v :: ops) = some q ↔
      ∃ r1 i, push r v = some (r1, i) ∧ runIssued r1 (iss ++ [(i, v)]) ops = some q := by
  rw [runIssued]
  rcases push r v with _ | ⟨r1, i⟩
  · simp
  · exact ⟨fun h => ⟨r1, i, rfl, h⟩, by rintro ⟨_, _, ⟨⟩, h⟩; exact h⟩

/-- **C01 + C02 over whole histories**: at the end of any history of pushes and clears that starts
under the invariant (and where this already holds of the indices recorded so far), every index returned
by a push since the last clear reads back (something `same` as) the value that push was given. -/
theorem issued_reads (r r' : R) (issued issued' : List (I × V)) (ops : List (Op V)) (hi : Inv r)
    (hiss : ∀ p ∈ issued, Valid r p.1 ∧ ∃ v', index r p.1 = some v' ∧ same (R := R) v' p.2)
    (h : runIssued r issued ops = some (r', issued')) :
    Inv r' ∧ ∀ p ∈ issued', Valid r' p.1 ∧ ∃ v', index r' p.1 = some v' ∧ same (R := R) v' p.2 := by
  induction ops generalizing r issued with
  | nil =>
    cases h
    exact ⟨hi, hiss⟩
  | cons op ops ih =>
    cases op with
    | push v =>
      obtain ⟨r1, i, hp, h⟩ := runIssued_push_eq_some.mp h
      obtain ⟨hi1, hvi, hread, hext⟩ := LawfulRegion.push_post hp hi
      refine ih r1 (issued ++ [(i, v)]) hi1 (fun p hp' => ?_) h
      rcases List.mem_append.mp hp' with hp' | hp'
      · obtain ⟨hv, v', hr, hs⟩ := hiss p hp'
        exact ⟨(hext _ hv).1, v', (hext _ hv).2.trans hr, hs⟩
      · cases List.mem_singleton.mp hp'
        exact ⟨hvi, hread⟩
    | clear => exact ih (clear r) [] (LawfulRegion.clear_inv r hi) nofun h

omit [LawfulRegion R] in
theorem runIssued_mem {r r' : R} {iss iss' : List (I × V)} {ops : List (Op V)}
    (h : runIssued r iss ops = some (r', iss')) : ∀ p ∈ iss', p ∈ iss ∨ Op.push p.2 ∈ ops := by
  induction ops generalizing r iss with
  | nil =>
    cases h
    exact fun p hp => Or.inl hp
  | cons op ops ih =>
    intro p hp
    cases op with
    | push v =>
      obtain ⟨r1, i, _, h⟩ := runIssued_push_eq_some.mp h
      rcases ih h p hp with h1 | h1
      · rcases List.mem_append.mp h1 with h2 | h2
        · exact Or.inl h2
        · cases List.mem_singleton.mp h2
          exact Or.inr (List.mem_cons_self ..)
      · exact Or.inr (List.mem_cons_of_mem _ h1)
    | clear =>
      rcases ih (r := clear r) (iss := []) h p hp with h1 | h1
      · cases h1
      · exact Or.inr (List.mem_cons_of_mem _ h1)
end

namespace C04
section
variable {R I : Type} [Region R (List UInt8) I] [LawfulRegion R]

/-- **C04**: after any history of pushes and clears from `default` on a string region over a byte
region whose `same` implies equality, every index issued since the last clear reads exactly the bytes
of the string that was pushed there — hence any predicate that holds of all pushed byte strings
(validity as UTF-8 in particular) holds of all strings read at those indices. -/
theorem string_reads_pushed (hsame : ∀ a b : List UInt8, same (R := R) a b → a = b)
    (P : List UInt8 → Prop) (ops : List (Op (List UInt8))) (r' : StringRegion R) (issued' : List (I × List UInt8))
    (hP : ∀ op ∈ ops, ∀ v, op = Op.push v → P v)
    (h : runIssued (Region.default : StringRegion R) [] ops = some (r', issued')) :
    ∀ p ∈ issued', ∃ bs, index r' p.1 = some bs ∧ bs = p.2 ∧ P bs := by
  obtain ⟨_, hall⟩ := issued_reads (Region.default : StringRegion R) r' [] issued' ops LawfulRegion.inv_default nofun h
  intro p hp
  obtain ⟨_, v', hr, hs⟩ := hall p hp
  have hv : v' = p.2 := hsame v' p.2 hs
  have hpushed : Op.push p.2 ∈ ops := (runIssued_mem h p hp).resolve_left nofun
  exact ⟨v', hr, hv, hv ▸ hP _ hpushed p.2 rfl⟩
end
end C04

/-- regions whose `same` relation (Rust `==` between a read item and a pushed value) implies equality
of byte strings: every catalogued byte region under a `StringRegion` -/
class SameIsEq (R : Type) {I : outParam Type} [Region R (List UInt8) I] : Prop where
  eq_of_same : ∀ a b : List UInt8, same (R := R) a b → a = b

instance : SameIsEq (OwnedRegion UInt8) := ⟨fun _ _ h => h⟩
instance : SameIsEq Codec.Region := ⟨fun _ _ h => h⟩
instance : SameIsEq HuffU8 := ⟨fun _ _ h => h⟩
instance {R I : Type} [Region R (List UInt8) I] [SameIsEq R] : SameIsEq (StringRegion R) :=
  ⟨fun a b h => SameIsEq.eq_of_same (R := R) a b h⟩
instance {R O : Type} [Region R (List UInt8) (Nat × Nat)] [DenseRegion R] [IdxCont O Nat] [SameIsEq R] :
    SameIsEq (ConsecPairs R O) :=
  ⟨fun a b h => SameIsEq.eq_of_same (R := R) a b h⟩
instance {R I : Type} [Region R (List UInt8) I] [SameIsEq R] : SameIsEq (CollapseSequence R I) :=
  ⟨fun a b h => by
    rcases h with h | h
    · exact SameIsEq.eq_of_same (R := R) a b h
    · exact ((LawfulEqv.eqv_iff b a).mp h).symm⟩

namespace C04
/-- **C04** with the hypothesis on `same` found by instance resolution: for a string region over any
byte region with a `SameIsEq` instance -/
theorem string_reads_pushed' {R I : Type} [Region R (List UInt8) I] [LawfulRegion R] [SameIsEq R]
    (P : List UInt8 → Prop) (ops : List (Op (List UInt8))) (r' : StringRegion R) (issued' : List (I × List UInt8))
    (hP : ∀ op ∈ ops, ∀ v, op = Op.push v → P v)
    (h : runIssued (Region.default : StringRegion R) [] ops = some (r', issued')) :
    ∀ p ∈ issued', ∃ bs, index r' p.1 = some bs ∧ bs = p.2 ∧ P bs :=
  string_reads_pushed (SameIsEq.eq_of_same (R := R)) P ops r' issued' hP h

example : SameIsEq (StringRegion (ConsecPairs (OwnedRegion UInt8) (Capd IndexOptimized))) := inferInstance
example : SameIsEq (StringRegion (CollapseSequence (OwnedRegion UInt8) (Nat × Nat))) := inferInstance
example : SameIsEq (CollapseSequence (ConsecPairs (StringRegion (OwnedRegion UInt8)) (Capd IndexOptimized)) Nat) := inferInstance

open FC.Generated

/-- the crate's single unchecked UTF-8 conversion is `<StringRegion as Region>::index` -/
theorem single_unsafe : unsafeSites = [(.implsString, .regionIndex)] := by decide

/-- every `impl Push<X> for StringRegion<_>` takes a string type (`String`, `&String`, `&str`, `&&str`)
and the body of its `push` has one of the shapes `as_str`, `as_bytes`, deref -/
theorem string_write_paths_are_utf8 :
    ∀ p ∈ stringPushImpls, p.1 ∈ [InTy.string, .refString, .str, .refStr] ∧ p.2 ∈ [Body.asStr, .asBytes, .deref] := by
  decide

/-- the storage field of `StringRegion` is not `pub`, and its `&mut self` methods are `push`,
`reserve_items`, `reserve_regions`, `clear` and `clone_from` (constructors — `merge_regions`, the derived
`Deserialize` — are not `&mut self` methods and are not in the list) -/
theorem storage_is_private :
    stringInnerPrivate = true ∧ ∀ m ∈ stringMutators, m ∈ [Mutator.push, .reserveItems, .reserveRegions, .clear, .cloneFrom] := by
  decide

end C04
end FC
