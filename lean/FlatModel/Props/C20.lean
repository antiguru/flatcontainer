import FlatModel.Model.Forms
import FlatModel.Proofs.Items
/-! C20: all accepted input forms of a value are interchangeable. Stated here for the two forms whose Rust
code path differs from the canonical one (Model/Forms.lean): `Push<ReadSlice>` for slice regions and
`Push<PushIter<_>>` for columns regions; the other forms are modelled as the canonical push. -/
namespace FC
open Region

section Slice
variable {R V I O : Type} [Region R V I] [IdxCont O I]

theorem pushReads_some (inner : R) (slices : O) (vs : List V) :
    pushReads inner slices (vs.map some) = pushAll inner slices vs := by
  induction vs generalizing inner slices with
  | nil => rfl
  | cons v vs ih =>
    simp only [List.map_cons, pushReads, pushAll]
    cases h : push inner v with
    | none => rfl
    | some p => simp only [ih]

/-- Model/Forms.lean and Proofs/Items.lean define the reads of an item separately, by the same equations -/
theorem ReadSlice.readList_eq_reads (x : ReadSlice R O V) : x.readList = x.reads := by
  cases x <;> rfl

namespace C20
theorem readList_of_iter (x : ReadSlice R O V) (vs : List V) (h : x.iter = some vs) :
    x.readList = vs.map some := by
  rw [ReadSlice.readList_eq_reads]
  exact (ReadSlice.iter_eq_some_iff x vs).mp h

/-- **C20 (slices)**: pushing a read item whose elements all read, as `vs` (`x.iter = some vs`) —
region-backed, taken from any other region of the same type, or borrowed from an owned vector — is
exactly pushing the owned list `vs` in the canonical form: same new state, same index, hence same
stored bytes and same reads. -/
theorem slice_item_form (d : SliceRegion R O) (x : ReadSlice R O V) (vs : List V) (h : x.iter = some vs) :
    d.pushItem x = push d vs := by
  simp only [SliceRegion.pushItem, readList_of_iter x vs h, pushReads_some]
  rfl
end C20
end Slice

section Columns
variable {R V I : Type} [Region R V I]

/-- the lazily padding loop at column `pre.length`: the columns before are left alone, the columns
from there on are treated as `pushRow` treats them after padding -/
theorem pushRowLazy_spec (pre post : List R) (vs : List V) :
    pushRowLazy (I := I) (pre ++ post) pre.length vs =
      (pushRow (padCols post vs.length) vs).map fun p => (pre ++ p.1, p.2) := by
  induction vs generalizing pre post with
  | nil => simp [pushRowLazy, padCols_zero]
  | cons v vs ih =>
    -- the column the loop finds (or creates) at `pre.length` is the head of the padded `post`
    obtain ⟨c, post', hcols, hpad⟩ : ∃ c post',
        (if (pre ++ post).length ≤ pre.length then pre ++ post ++ [(Region.default : R)] else pre ++ post) =
          pre ++ c :: post' ∧ padCols post (vs.length + 1) = c :: padCols post' vs.length := by
      cases post with
      | nil => exact ⟨_, [], by simp, padCols_nil_succ _⟩
      | cons c post => exact ⟨c, post, by simp, padCols_cons_succ ..⟩
    simp only [pushRowLazy, hcols, List.length_cons, hpad, pushRow, List.getElem?_append_right (Nat.le_refl _),
      Nat.sub_self, List.getElem?_cons_zero]
    cases push c v with
    | none => rfl
    | some q =>
      have := ih (pre ++ [q.1]) post'
      simp only [List.length_append, List.length_singleton, List.append_assoc, List.singleton_append] at this
      simp only [List.set_append_right _ _ (Nat.le_refl _), Nat.sub_self, List.set_cons_zero, this]
      cases pushRow (padCols post' vs.length) vs <;> rfl

namespace C20
/-- **C20 (columns)**: pushing a row through `PushIter` (columns created lazily while iterating)
yields exactly what the slice / vector / array forms yield (columns padded first) -/
theorem columns_iter_form (cols : List R) (row : List V) :
    pushRowLazy (I := I) cols 0 row = pushRow (padCols cols row.length) row :=
  (pushRowLazy_spec [] cols row).trans Option.map_id'

/-- … at the level of the region: same new state, same index -/
theorem columns_iter_form_region {O : Type} [IdxCont O Nat] (r : ColumnsRegion R I O) (row : List V) :
    r.pushIter row = push r row := by
  simp only [ColumnsRegion.pushIter, columns_iter_form]
  rfl
end C20
end Columns
end FC
