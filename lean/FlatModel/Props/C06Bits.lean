import FlatModel.Proofs.HuffTable
import FlatModel.Proofs.HuffStats
/-! C06 (bit level): the Huffman container stores symbol lists faithfully; coded mode refines to a
bit-string specification (`encodeBits`), raw mode is a plain symbol vector. -/
namespace FC.C06
open FC FC.Huff

abbrev itemBits (c : Code) (item : List Nat) : Nat := (item.map (codeLen c)).sum

/-! ### raw mode (`inner = Err(raw)`): before any merge / after `clear` -/

theorem default_raw : Container.default.coded = none := rfl
theorem clear_raw (h : Container) : (Container.clear h).coded = none := rfl

theorem raw_mode (h : Container) (item : List Nat) (hraw : h.coded = none) :
    ∃ h', Container.push h item = some (h', (h.raw.length, h.raw.length + item.length)) ∧
      h'.coded = none ∧ h'.raw = h.raw ++ item ∧
      Container.index h' (h.raw.length, h.raw.length + item.length) = some item :=
  ⟨_, Container.push_eq_of_raw item hraw, hraw, rfl, by simp [Container.index, hraw]⟩

theorem raw_frame (h h' : Container) (item : List Nat) (i j : Nat × Nat) (hraw : h.coded = none)
    (hp : Container.push h item = some (h', i)) (hj : j.1 ≤ j.2 ∧ j.2 ≤ h.raw.length) :
    Container.index h' j = Container.index h j := by
  cases (Container.push_eq_of_raw item hraw).symm.trans hp
  simp only [Container.index, hraw, List.length_append]
  have h1 : j.1 ≤ j.2 ∧ j.2 ≤ h.raw.length + item.length := ⟨hj.1, by omega⟩
  rw [if_pos hj, if_pos h1, List.drop_append_of_le_length (by omega), List.take_append_of_le_length (by simp; omega)]

/-! ### coded mode (`inner = Ok((huffman, bytes, bits))`): the encoder side -/

theorem push_coded_eq_some {h h' : Container} {c : Code} {bytes : List Nat} {bits : Nat} {item : List Nat} {i : Nat × Nat}
    (hcoded : h.coded = some (c, bytes, bits)) (hp : Container.push h item = some (h', i)) :
    ∃ bytes' bits', pushSymbols c bytes bits item = some (bytes', bits', i) ∧ h'.coded = some (c, bytes', bits') := by
  obtain ⟨⟨bytes', bits', _⟩, hps, ⟨⟩⟩ := Option.map_eq_some_iff.mp ((Container.push_eq_of_coded item hcoded).symm.trans hp)
  exact ⟨bytes', bits', hps, rfl⟩

theorem bits_eq_sum (h h' : Container) (c : Code) (bytes : List Nat) (bits : Nat) (item : List Nat) (i : Nat × Nat)
    (hcoded : h.coded = some (c, bytes, bits)) (hc : EncOKOn c item) (hwf : WFStore bytes bits)
    (hp : Container.push h item = some (h', i)) :
    i = (bits, bits + itemBits c item) ∧
      ∃ bytes', h'.coded = some (c, bytes', bits + itemBits c item) ∧ WFStore bytes' (bits + itemBits c item) := by
  obtain ⟨bytes', bits', hps, hcoded'⟩ := push_coded_eq_some hcoded hp
  obtain ⟨ws, hw, rfl, rfl, hwf', -⟩ := pushSymbols_eq_some hc hwf hps
  rw [show itemBits c item = ws.length from (encodeBits_length c item ws hw).symm]
  exact ⟨rfl, bytes', hcoded', hwf'⟩

/-- a symbol without a code makes the push fail (the crate panics on `unwrap`) -/
theorem refuses_unknown (h : Container) (c : Code) (bytes : List Nat) (bits : Nat) (item : List Nat) (s : Nat)
    (hcoded : h.coded = some (c, bytes, bits)) (hs : s ∈ item) (hl : c.lookup s = none) :
    Container.push h item = none := by
  rw [Container.push_eq_of_coded item hcoded, push_refuses_unknown c bytes bits item s hs hl]
  rfl

theorem accepts_known (h : Container) (c : Code) (bytes : List Nat) (bits : Nat) (item : List Nat)
    (hcoded : h.coded = some (c, bytes, bits)) (hc : EncOKOn c item) (hwf : WFStore bytes bits)
    (hk : ∀ s ∈ item, (c.lookup s).isSome) : (Container.push h item).isSome := by
  have := (encodeBits_isSome_iff c item).2 hk
  obtain ⟨ws, hw⟩ := Option.isSome_iff_exists.1 this
  obtain ⟨bytes', he, -, -⟩ := push_appends c bytes bits item ws hc hwf hw
  rw [Container.push_eq_of_coded item hcoded, he]
  rfl

abbrev slice (bytes : List Nat) (j : Nat × Nat) : List Bool := ((allBits bytes).drop j.1).take (j.2 - j.1)

def Denotes (c : Code) (bytes : List Nat) (bits : Nat) (j : Nat × Nat) (w : List Nat) : Prop :=
  j.2 ≤ bits ∧ encodeBits c w = some (slice bytes j)

theorem index_of_denotes (h : Container) (c : Code) (bytes : List Nat) (bits : Nat) (j : Nat × Nat) (w : List Nat)
    (hcoded : h.coded = some (c, bytes, bits)) (ht : TableOK c) (hwf : WFStore bytes bits)
    (hd : Denotes c bytes bits j w) : Container.index h j = some w := by
  rw [Container.index_eq_of_coded hcoded]
  exact decode_spec c ht bytes j.1 j.2 w (by have := hwf.length_eq; have := hd.1; omega) hd.2

theorem slice_eq_of_take_eq {X Y : List Bool} {n lo hi : Nat} (h : X.take n = Y.take n) (hhi : hi ≤ n) :
    (X.drop lo).take (hi - lo) = (Y.drop lo).take (hi - lo) := by
  rw [← List.drop_take, ← List.drop_take]
  have := congrArg (List.take hi) h
  rw [List.take_take, List.take_take, Nat.min_eq_left hhi] at this
  rw [this]

theorem push_coded (h h' : Container) (c : Code) (bytes : List Nat) (bits : Nat) (item : List Nat) (i : Nat × Nat)
    (hcoded : h.coded = some (c, bytes, bits)) (hc : EncOKOn c item) (hwf : WFStore bytes bits)
    (hp : Container.push h item = some (h', i)) :
    ∃ bytes' bits', h'.coded = some (c, bytes', bits') ∧ WFStore bytes' bits' ∧ bits ≤ bits' ∧
      Denotes c bytes' bits' i item ∧
      ∀ j w, Denotes c bytes bits j w → Denotes c bytes' bits' j w := by
  obtain ⟨bytes', bits', hps, hcoded'⟩ := push_coded_eq_some hcoded hp
  obtain ⟨hfr, hle⟩ := frame_bits c bytes bits item hc bytes' bits' i hwf hps
  obtain ⟨ws, hw, rfl, rfl, hwf', hbits⟩ := pushSymbols_eq_some hc hwf hps
  refine ⟨bytes', _, hcoded', hwf', hle, ⟨Nat.le_refl _, ?_⟩, ?_⟩
  · have hs : slice bytes' (bits, bits + ws.length) = (bitsOf bytes' (bits + ws.length)).drop bits := List.drop_take.symm
    rw [hw, hs, hbits, List.drop_left' hwf.packs.2]
  · -- earlier ranges lie within the first `bits` bits, which are unchanged
    rintro j w ⟨hj, hjw⟩
    exact ⟨by omega, hjw.trans (congrArg some (slice_eq_of_take_eq hfr.symm hj))⟩

theorem roundtrip_coded (h h' : Container) (c : Code) (bytes : List Nat) (bits : Nat) (item : List Nat) (i : Nat × Nat)
    (hcoded : h.coded = some (c, bytes, bits)) (hc : EncOKOn c item) (ht : TableOK c) (hwf : WFStore bytes bits)
    (hp : Container.push h item = some (h', i)) : Container.index h' i = some item := by
  obtain ⟨bytes', bits', hcoded', hwf', -, hd, -⟩ := push_coded h h' c bytes bits item i hcoded hc hwf hp
  exact index_of_denotes h' c bytes' bits' i item hcoded' ht hwf' hd

theorem frame_coded (h h' : Container) (c : Code) (bytes : List Nat) (bits : Nat) (item : List Nat) (i j : Nat × Nat)
    (w : List Nat) (hcoded : h.coded = some (c, bytes, bits)) (hc : EncOKOn c item) (ht : TableOK c) (hwf : WFStore bytes bits)
    (hp : Container.push h item = some (h', i)) (hj : Denotes c bytes bits j w) :
    Container.index h' j = some w ∧ Container.index h j = some w := by
  obtain ⟨bytes', bits', hcoded', hwf', -, -, hfr⟩ := push_coded h h' c bytes bits item i hcoded hc hwf hp
  exact ⟨index_of_denotes h' c bytes' bits' j w hcoded' ht hwf' (hfr j w hj),
    index_of_denotes h c bytes bits j w hcoded ht hwf hj⟩

abbrev mergedCode (srcs : List Container) : Code :=
  createFrom (srcs.foldl (fun acc h => mergeStats acc h.stats) [])

theorem merge_coded (srcs : List Container) : (Container.merge srcs).coded = some (mergedCode srcs, [], 0) := rfl

theorem wfStore_empty : WFStore [] 0 := ⟨rfl, fun _ h => (by cases h), fun h => absurd rfl h⟩

def GoodCode (c : Code) : Prop :=
  (∀ x ∈ c.encode, 1 ≤ x.2.1 ∧ x.2.1 ≤ 57 ∧ x.2.2 < 2 ^ x.2.1) ∧
  c.encode.Pairwise fun a b => Incomp (bitsOfCode a.2.1 a.2.2) (bitsOfCode b.2.1 b.2.2)

theorem createFrom_ok (counts : List (Nat × Int)) (h : GoodCode (createFrom counts)) :
    EncOK (createFrom counts) ∧ TableOK (createFrom counts) :=
  ⟨encOK_of_forall _ fun x hx => ⟨(h.1 x hx).2.1, (h.1 x hx).2.2⟩,
   createFrom_tableOK counts (fun x hx => ⟨(h.1 x hx).1, by have := (h.1 x hx).2.1; omega, (h.1 x hx).2.2⟩) h.2⟩

theorem roundtrip_after_merge (srcs : List Container) (item : List Nat) (h' : Container) (i : Nat × Nat)
    (hc : EncOK (mergedCode srcs)) (ht : TableOK (mergedCode srcs))
    (hp : Container.push (Container.merge srcs) item = some (h', i)) :
    Container.index h' i = some item ∧ i = (0, itemBits (mergedCode srcs) item) := by
  refine ⟨roundtrip_coded _ h' _ [] 0 item i (merge_coded srcs) (hc.on item) ht wfStore_empty hp, ?_⟩
  have := (bits_eq_sum _ h' _ [] 0 item i (merge_coded srcs) (hc.on item) wfStore_empty hp).1
  simpa using this

end FC.C06
