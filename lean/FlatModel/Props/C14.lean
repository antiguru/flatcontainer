import FlatModel.Proofs.Items
/-! C14: the `IntoOwned` laws of the read items (`into_owned`, `borrow_as`, `clone_onto`,
`reborrow`) and copying an item from one region into another. -/
namespace FC
open Region

namespace C14

section Slice
variable {R V I O : Type} [Region R V I] [IdxCont O I] [LawfulRegion R] [LawfulIdxCont O]

/-- **C14** `into_owned` of the item at a valid index is the value `index` returns -/
theorem intoOwned_eq_index (r : SliceRegion R O) (i : Nat × Nat) (hi : Inv r) (hv : Valid r i) :
    ∃ vs, (ReadSlice.backed r i.1 i.2 : ReadSlice R O V).intoOwned = some vs ∧ index r i = some vs :=
  ReadSlice.iter_backed r i hi hv

omit [LawfulRegion R] [LawfulIdxCont O] in
/-- **C14** `borrow_as(&owned).into_owned() == owned` -/
theorem borrowAs_intoOwned (vs : List V) :
    (ReadSlice.borrowed vs : ReadSlice R O V).iter = some vs ∧
    (ReadSlice.borrowed vs : ReadSlice R O V).intoOwned = some vs := ⟨rfl, rfl⟩

omit [LawfulRegion R] [LawfulIdxCont O] in
/-- **C14** `borrow_as(&x.into_owned())` is indistinguishable from `x`: same iteration, length and
positional reads, whatever the representation of `x` -/
theorem borrowAs_roundtrip (x : ReadSlice R O V) (vs : List V) (h : x.intoOwned = some vs) :
    (ReadSlice.borrowed vs : ReadSlice R O V).iter = x.iter ∧
    (ReadSlice.borrowed vs : ReadSlice R O V).len = x.len ∧
    ∀ k, (ReadSlice.borrowed vs : ReadSlice R O V).get k = x.get k :=
  ⟨h.symm, (ReadSlice.len_of_iter x vs h).symm, fun k => (ReadSlice.get_of_iter x vs h k).symm⟩

omit [LawfulRegion R] [LawfulIdxCont O] in
/-- **C14** `clone_onto` makes the target equal to `into_owned`, whatever the target held
(shorter, equal, longer) -/
theorem cloneOnto_eq (x : ReadSlice R O V) (vs : List V) (h : x.iter = some vs) (t : List V) :
    x.cloneOnto t = some vs := by
  rw [ReadSlice.cloneOnto_eq_iter, h]

theorem cloneOnto_eq_intoOwned (x : ReadSlice R O V) (hx : x.WF) (t : List V) :
    x.cloneOnto t = x.intoOwned := by
  obtain ⟨vs, hvs⟩ := ReadSlice.wf_iter x hx
  rw [cloneOnto_eq x vs hvs t, ReadSlice.intoOwned, hvs]

omit [LawfulRegion R] [LawfulIdxCont O] in
/-- **C14** `reborrow` is the identity -/
theorem reborrow_id (x : ReadSlice R O V) : x.reborrow = x := rfl

/-- **C14** copying between regions, `r₂.push(x.into_owned())`: the owned value of an item (either
representation) pushed into another region of the same type succeeds when `Accepts`; the new
region's item at the returned index is `same` as the source's value -/
theorem copy_between_regions (x : ReadSlice R O V) (vs : List V) (hx : x.intoOwned = some vs)
    (r₂ : SliceRegion R O) (hi : Inv r₂) (ha : Accepts r₂ vs) :
    ∃ r₂' j, x.intoOwned.bind (push r₂) = some (r₂', j) ∧ Inv r₂' ∧ Valid r₂' j ∧
      ∃ ws, index r₂' j = some ws ∧ (ReadSlice.backed r₂' j.1 j.2 : ReadSlice R O V).intoOwned = some ws ∧
        same (R := SliceRegion R O) ws vs := by
  obtain ⟨r', j, hp, -⟩ := LawfulRegion.push_ok r₂ vs hi ha
  obtain ⟨hi', hv', ⟨ws, hr, hs⟩, -⟩ := LawfulRegion.push_post hp hi
  refine ⟨r', j, by rw [hx]; exact hp, hi', hv', ws, hr, ?_, hs⟩
  rw [ReadSlice.intoOwned, ReadSlice.iter_backed_eq_index r' j hi'.2.1 hv', hr]

/-- **C14** with C01: push, read the item at the returned index, `into_owned` — `same` as what was pushed
(the copy above from a borrowed source) -/
theorem push_intoOwned (r : SliceRegion R O) (v : List V) (hi : Inv r) (ha : Accepts r v) :
    ∃ r' i, push r v = some (r', i) ∧
      ∃ v', (ReadSlice.backed r' i.1 i.2 : ReadSlice R O V).intoOwned = some v' ∧
        same (R := SliceRegion R O) v' v := by
  obtain ⟨r', i, hp, -, -, v', -, hio, hs⟩ := copy_between_regions (ReadSlice.borrowed v) v rfl r hi ha
  exact ⟨r', i, hp, v', hio, hs⟩

theorem copy_between_regions_backed (r₁ r₂ : SliceRegion R O) (i : Nat × Nat) (h1 : Inv r₁) (hv : Valid r₁ i)
    (hi : Inv r₂) (ha : ∀ vs, index r₁ i = some vs → Accepts r₂ vs) :
    ∃ vs r₂' j, index r₁ i = some vs ∧
      (ReadSlice.backed r₁ i.1 i.2 : ReadSlice R O V).intoOwned.bind (push r₂) = some (r₂', j) ∧
      ∃ ws, index r₂' j = some ws ∧ same (R := SliceRegion R O) ws vs := by
  obtain ⟨vs, hio, hidx⟩ := intoOwned_eq_index r₁ i h1 hv
  obtain ⟨r₂', j, hp, _, _, ws, hr, _, hs⟩ :=
    copy_between_regions (ReadSlice.backed r₁ i.1 i.2) vs hio r₂ hi (ha vs hidx)
  exact ⟨vs, r₂', j, hidx, hp, ws, hr, hs⟩

omit [LawfulRegion R] [LawfulIdxCont O] in
theorem copy_between_regions_borrowed (x : ReadSlice R O V) (vs : List V) (hx : x.intoOwned = some vs)
    (r₂ : SliceRegion R O) :
    (ReadSlice.borrowed vs : ReadSlice R O V).intoOwned.bind (push r₂) = x.intoOwned.bind (push r₂) := by
  rw [hx]; rfl

end Slice

section Columns
variable {R V I O : Type} [Region R V I] [LawfulRegion R] [IdxCont O Nat] [LawfulIdxCont O]

/-- **C14** `into_owned` of the row item at a valid index is the value `index` returns -/
theorem columns_intoOwned_eq_index (r : ColumnsRegion R I O) (k : Nat) (hi : Inv r) (hv : Valid r k) :
    ∃ ix vs, index r.indices k = some ix ∧
      (ReadColumns.backed r.cols ix : ReadColumns R I V).intoOwned = some vs ∧ index r k = some vs := by
  obtain ⟨ix, vs, hix, -, hvs, hidx⟩ := ReadColumns.iter_backed r k hi hv
  exact ⟨ix, vs, hix, hvs, hidx⟩

omit [LawfulRegion R] in
theorem columns_borrowAs_intoOwned (vs : List V) :
    (ReadColumns.borrowed vs : ReadColumns R I V).iter = some vs ∧
    (ReadColumns.borrowed vs : ReadColumns R I V).intoOwned = some vs := ⟨rfl, rfl⟩

omit [LawfulRegion R] in
theorem columns_borrowAs_roundtrip (x : ReadColumns R I V) (vs : List V) (h : x.intoOwned = some vs) :
    (ReadColumns.borrowed vs : ReadColumns R I V).iter = x.iter ∧
    (ReadColumns.borrowed vs : ReadColumns R I V).len = x.len ∧
    ∀ k, (ReadColumns.borrowed vs : ReadColumns R I V).get k = x.get k :=
  ⟨h.symm, (ReadColumns.len_of_iter x vs h).symm, fun k => (ReadColumns.get_of_iter x vs h k).symm⟩

omit [LawfulRegion R] in
/-- **C14** `clone_onto` for rows -/
theorem columns_cloneOnto_eq (x : ReadColumns R I V) (vs : List V) (h : x.iter = some vs) (t : List V) :
    x.cloneOnto t = some vs := by
  rw [ReadColumns.cloneOnto_eq_iter, h]

theorem columns_cloneOnto_eq_intoOwned (x : ReadColumns R I V) (hx : x.WF) (t : List V) :
    x.cloneOnto t = x.intoOwned := by
  obtain ⟨vs, hvs⟩ := ReadColumns.wf_iter x hx
  rw [columns_cloneOnto_eq x vs hvs t, ReadColumns.intoOwned, hvs]

omit [Region R V I] [LawfulRegion R] in
theorem columns_reborrow_id (x : ReadColumns R I V) : x.reborrow = x := rfl

/-- **C14** copying a row (either representation) into another columns region -/
theorem columns_copy_between_regions (x : ReadColumns R I V) (vs : List V) (hx : x.intoOwned = some vs)
    (r₂ : ColumnsRegion R I O) (hi : Inv r₂) (ha : Accepts r₂ vs) :
    ∃ r₂' k, x.intoOwned.bind (push r₂) = some (r₂', k) ∧ Inv r₂' ∧ Valid r₂' k ∧
      ∃ ws ix, index r₂' k = some ws ∧ index r₂'.indices k = some ix ∧
        (ReadColumns.backed r₂'.cols ix : ReadColumns R I V).intoOwned = some ws ∧
        same (R := ColumnsRegion R I O) ws vs := by
  obtain ⟨r', k, hp, -⟩ := LawfulRegion.push_ok r₂ vs hi ha
  obtain ⟨hi', hv', ⟨ws, hr, hs⟩, -⟩ := LawfulRegion.push_post hp hi
  obtain ⟨ix, ws', hix, hio, hidx⟩ := columns_intoOwned_eq_index r' k hi' hv'
  cases hr.symm.trans hidx
  exact ⟨r', k, by rw [hx]; exact hp, hi', hv', ws, ix, hr, hix, hio, hs⟩

/-- **C14** with C01, for rows -/
theorem columns_push_intoOwned (r : ColumnsRegion R I O) (row : List V) (hi : Inv r) (ha : Accepts r row) :
    ∃ r' k ix, push r row = some (r', k) ∧ index r'.indices k = some ix ∧
      ∃ v', (ReadColumns.backed r'.cols ix : ReadColumns R I V).intoOwned = some v' ∧
        same (R := ColumnsRegion R I O) v' row := by
  obtain ⟨r', k, hp, -, -, v', ix, -, hix, hio, hs⟩ :=
    columns_copy_between_regions (ReadColumns.borrowed row) row rfl r hi ha
  exact ⟨r', k, ix, hp, hix, v', hio, hs⟩

theorem columns_copy_between_regions_backed (r₁ r₂ : ColumnsRegion R I O) (k : Nat) (h1 : Inv r₁)
    (hv : Valid r₁ k) (hi : Inv r₂) (ha : ∀ vs, index r₁ k = some vs → Accepts r₂ vs) :
    ∃ ix vs r₂' j, index r₁.indices k = some ix ∧ index r₁ k = some vs ∧
      (ReadColumns.backed r₁.cols ix : ReadColumns R I V).intoOwned.bind (push r₂) = some (r₂', j) ∧
      ∃ ws, index r₂' j = some ws ∧ same (R := ColumnsRegion R I O) ws vs := by
  obtain ⟨ix, vs, hix, hio, hidx⟩ := columns_intoOwned_eq_index r₁ k h1 hv
  obtain ⟨r₂', j, hp, _, _, ws, _, hr, _, _, hs⟩ :=
    columns_copy_between_regions (ReadColumns.backed r₁.cols ix) vs hio r₂ hi (ha vs hidx)
  exact ⟨ix, vs, r₂', j, hix, hidx, hp, ws, hr, hs⟩

omit [LawfulRegion R] [LawfulIdxCont O] in
theorem columns_copy_between_regions_borrowed (x : ReadColumns R I V) (vs : List V) (hx : x.intoOwned = some vs)
    (r₂ : ColumnsRegion R I O) :
    (ReadColumns.borrowed vs : ReadColumns R I V).intoOwned.bind (push r₂) = x.intoOwned.bind (push r₂) := by
  rw [hx]; rfl

end Columns

/-! ### the hypotheses are satisfiable; the three target shapes of `clone_onto` -/

open ItemsEx

example : Inv twoItems ∧ Valid twoItems (0, 2) ∧ Inv dst ∧ Accepts dst [10, 20] ∧
    (ReadSlice.backed twoItems 0 2 : ReadSlice _ _ Nat).intoOwned = some [10, 20] ∧
    (push dst [10, 20]).map (·.2) = some (1, 3) ∧
    ((push dst [10, 20]).bind fun p => index p.1 p.2) = some [10, 20] :=
  ⟨twoItems_inv, twoItems_valid₁, dst_inv, dst_accepts, rfl, rfl, rfl⟩

example : (ReadSlice.backed twoItems 0 2 : ReadSlice _ _ Nat).cloneOnto [1] = some [10, 20] ∧
    (ReadSlice.backed twoItems 0 2 : ReadSlice _ _ Nat).cloneOnto [1, 2] = some [10, 20] ∧
    (ReadSlice.backed twoItems 0 2 : ReadSlice _ _ Nat).cloneOnto [1, 2, 3, 4] = some [10, 20] ∧
    (ReadSlice.borrowed [10, 20] : ReadSlice (MirrorRegion Nat) (VecIdx Nat 8) Nat).cloneOnto [] = some [10, 20] :=
  ⟨rfl, rfl, rfl, rfl⟩

end C14
end FC
