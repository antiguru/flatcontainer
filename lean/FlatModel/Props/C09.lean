import FlatModel.Props.C01
import FlatModel.Proofs.OpsLaws
/-! C09 (clone / clone_from) and C10 (pre-sizing is invisible; merged regions start empty), in the states
reachable by pushes and clears (`Reachable`). Then `Reach`, the states reachable through creation, merge,
push, clear, the reservation calls, clone and clone_from (deserialisation is not among the rules): for a
region with `LawfulAux` and `LawfulMerge` instances (no coded region has the latter) the invariant holds
there (`reach_inv`), hence C01 (`C01.roundtrip_reach`) and C02 across reservations (`C02.frame_reserve`). -/
namespace FC
open Region

section
variable {R V I : Type} [Region R V I] [RegionAux R] [LawfulRegion R] [LawfulAux R]

namespace C09
/-- C09 in terms of `Sim` -/
theorem clone_equal (r : R) (hr : Reachable r) :
    Sim (RegionAux.clone r) r ∧ Inv (RegionAux.clone r) :=
  LawfulAux.clone_sim r (reachable_inv r hr)

theorem cloneFrom_equal (d s : R) (hd : Reachable d) (hs : Reachable s) :
    Sim (RegionAux.cloneFrom d s) s ∧ Inv (RegionAux.cloneFrom d s) :=
  LawfulAux.cloneFrom_sim d s (reachable_inv d hd) (reachable_inv s hs)

/-- **C09**: a clone reads identically to the original at every issued index and answers every
further push sequence identically. (Independence of the two values is immediate in a pure model.) -/
theorem clone_observe (r : R) (hr : Reachable r) : ObsEq (RegionAux.clone r) r :=
  sim_observe (clone_equal r hr) (reachable_inv r hr)

/-- **C09**: `clone_from` into a destination with arbitrary reachable prior contents yields a region
that is observationally the source — the same thing `clone` yields -/
theorem cloneFrom_observe (d s : R) (hd : Reachable d) (hs : Reachable s) : ObsEq (RegionAux.cloneFrom d s) s :=
  sim_observe (cloneFrom_equal d s hd hs) (reachable_inv s hs)
end C09

namespace C10
/-- **C10**: `reserve_items` with arbitrary (also wrong) announcements changes nothing observable -/
theorem reserveItems_invisible (r : R) (hr : Reachable r) (vs : List V) : ObsEq (RegionAux.reserveItems r vs) r :=
  sim_observe (LawfulAux.reserveItems_sim r vs (reachable_inv r hr)) (reachable_inv r hr)

/-- **C10**: `reserve_regions` over any source regions reached by pushes and clears changes nothing observable -/
theorem reserveRegions_invisible (r : R) (hr : Reachable r) (rs : List R) (hrs : ∀ x ∈ rs, Reachable x) :
    ObsEq (RegionAux.reserveRegions r rs) r :=
  sim_observe (LawfulAux.reserveRegions_sim r rs (reachable_inv r hr) fun x hx => reachable_inv x (hrs x hx))
    (reachable_inv r hr)

/-- **C10**: for a region type with a `LawfulMerge` instance (the uncoded ones), a region made by
`merge_regions` from any sources reached by pushes and clears is observationally a default one -/
theorem merge_fresh [LawfulMerge R] (rs : List R) (hrs : ∀ x ∈ rs, Reachable x) :
    ObsEq (RegionAux.mergeRegions rs) (Region.default : R) :=
  sim_observe (LawfulMerge.merge_fresh rs fun x hx => reachable_inv x (hrs x hx)) LawfulRegion.inv_default
end C10
end

namespace C10
section
variable {R V I S : Type} [Region R V I] [IdxCont S I] [RegionAux R] [IdxAux S]
  [LawfulRegion R] [LawfulIdxCont S] [LawfulIdxAux S]
/-- **C10**: `FlatStack::reserve` is invisible -/
theorem stack_reserve_invisible (fs : FlatStack R S) (hr : Reachable fs) (n : Nat) : ObsEq (fs.reserve n) fs :=
  sim_observe (FlatStack.reserve_sim fs n (reachable_inv fs hr)) (reachable_inv fs hr)
/-- **C10**: `FlatStack::with_capacity` is observationally a default stack -/
theorem stack_withCapacity_default (n : Nat) :
    ObsEq (FlatStack.withCapacity n : FlatStack R S) (Region.default : FlatStack R S) :=
  sim_observe (FlatStack.withCapacity_sim n) LawfulRegion.inv_default
end
end C10

section
variable {R V I : Type} [Region R V I] [RegionAux R]

/-- the ways the crate offers to obtain a region value, deserialisation aside: creation, merge, push,
clear, the reservation calls, clone and clone_from — from regions obtained the same way -/
inductive Reach : R → Prop
  | default : Reach (Region.default : R)
  | push (r r' : R) (v : V) (i : I) : Reach r → push r v = some (r', i) → Reach r'
  | clear (r : R) : Reach r → Reach (clear r)
  | reserveItems (r : R) (vs : List V) : Reach r → Reach (RegionAux.reserveItems r vs)
  | reserveRegions (r : R) (rs : List R) : Reach r → (∀ x ∈ rs, Reach x) → Reach (RegionAux.reserveRegions r rs)
  | merge (rs : List R) : (∀ x ∈ rs, Reach x) → Reach (RegionAux.mergeRegions rs)
  | clone (r : R) : Reach r → Reach (RegionAux.clone r)
  | cloneFrom (d s : R) : Reach d → Reach s → Reach (RegionAux.cloneFrom d s)

theorem reach_inv [LawfulRegion R] [LawfulAux R] [LawfulMerge R] (r : R) (h : Reach r) : Inv r := by
  induction h with
  | default => exact LawfulRegion.inv_default
  | push r r' v i _ hp ih => exact (LawfulRegion.push_inv r r' v i ih hp).1
  | clear r _ ih => exact LawfulRegion.clear_inv r ih
  | reserveItems r vs _ ih => exact (LawfulAux.reserveItems_sim r vs ih).2
  | reserveRegions r rs _ _ ih ihs => exact (LawfulAux.reserveRegions_sim r rs ih ihs).2
  | merge rs _ ihs => exact (LawfulMerge.merge_fresh rs ihs).2
  | clone r _ ih => exact (LawfulAux.clone_sim r ih).2
  | cloneFrom d s _ _ ihd ihs => exact (LawfulAux.cloneFrom_sim d s ihd ihs).2

/-- C01 in every state of `Reach` (creation, merge, push, clear, reservations, clone, clone_from), for
region types with `LawfulAux` and `LawfulMerge` instances (the uncoded ones) -/
theorem C01.roundtrip_reach [LawfulRegion R] [LawfulAux R] [LawfulMerge R] (r : R) (hr : Reach r) (v : V)
    (ha : Accepts r v) : ∃ r' i, push r v = some (r', i) ∧ ∃ v', index r' i = some v' ∧ same (R := R) v' v :=
  LawfulRegion.push_ok r v (reach_inv r hr) ha

/-- C02: in every state of `Reach` of a region type with `LawfulAux` and `LawfulMerge` instances (the
uncoded ones), `reserve_items` and `reserve_regions` (sources in `Reach`) keep every valid index valid
and reading the same item -/
theorem C02.frame_reserve [LawfulRegion R] [LawfulAux R] [LawfulMerge R] (r : R) (hr : Reach r) (j : I) (hv : Valid r j) :
    (∀ vs, Valid (RegionAux.reserveItems r vs) j ∧ index (RegionAux.reserveItems r vs) j = index r j) ∧
    (∀ rs : List R, (∀ x ∈ rs, Reach x) →
      Valid (RegionAux.reserveRegions r rs) j ∧ index (RegionAux.reserveRegions r rs) j = index r j) := by
  have hi := reach_inv r hr
  exact ⟨fun vs => have h := LawfulAux.reserveItems_sim r vs hi
      Extends.of_sim h.1 h.2 hi j hv,
    fun rs hrs => have h := LawfulAux.reserveRegions_sim r rs hi fun x hx => reach_inv x (hrs x hx)
      Extends.of_sim h.1 h.2 hi j hv⟩
end
end FC
