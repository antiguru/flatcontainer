import FlatModel.Props.C09
import FlatModel.Proofs.Heap
/-! C18: `heap_size` reports `(used, capacity)` pairs with used ≤ capacity in every state the API can
produce; the used bytes never decrease on push; `clear` shrinks no reported capacity (for regions with `KeepsCaps`:
the dictionary-coded region has no instance, see the last example) and forgets the payload; every branch of a
composite region contributes. -/
namespace FC
open Region

theorem Pushes.reach {R V I : Type} [Region R V I] [RegionAux R] {r r' : R} (hp : Pushes r r') (h : Reach r) : Reach r' :=
  hp.closed Reach.push h

namespace C18

section General
variable {R V I : Type} [Region R V I] [RegionAux R] [HeapInv R] [LawfulHeap R]

omit [HeapInv R] [LawfulHeap R] in
theorem totalUsed_eq (r : R) : totalUsed r = ((RegionAux.heap r).map (·.1)).sum := rfl
omit [HeapInv R] [LawfulHeap R] in
theorem capsOf_eq (r : R) : capsOf r = (RegionAux.heap r).map (·.2) := rfl

/-- every vector has length ≤ capacity in every region value obtainable through the API: creation,
push, clear, the sizing calls (from arbitrary reachable sources), merge, clone and clone_from -/
theorem reach_capInv (r : R) (h : Reach r) : HeapInv.CapInv r := by
  induction h with
  | default => exact LawfulHeap.cap_default
  | push r r' v i _ hp ih => exact LawfulHeap.cap_push r r' v i ih hp
  | clear r _ ih => exact LawfulHeap.cap_clear r ih
  | reserveItems r vs _ ih => exact LawfulHeap.cap_reserveItems r vs ih
  | reserveRegions r rs _ _ ih _ => exact LawfulHeap.cap_reserveRegions r rs ih
  | merge rs _ _ => exact LawfulHeap.cap_merge rs
  | clone r _ ih => exact LawfulHeap.cap_clone r ih
  | cloneFrom d s _ _ ihd ihs => exact LawfulHeap.cap_cloneFrom d s ihd ihs

omit [HeapInv R] [LawfulHeap R] in
theorem reach_pushes (r r' : R) (vs : List V) (h : Reach r) (hp : C08.runPushes r vs = some r') : Reach r' :=
  (pushes_of_runPushes hp).reach h

/-- **C18 (soundness)**: every pair `heap_size` reports has used ≤ capacity -/
theorem used_le_cap (r : R) (h : Reach r) : ∀ p ∈ RegionAux.heap r, p.1 ≤ p.2 :=
  LawfulHeap.heap_ok r (reach_capInv r h)

/-- **C18 (monotone)**: a push never decreases the bytes in use -/
theorem push_monotone (r r' : R) (v : V) (i : I) (h : Reach r) (hp : push r v = some (r', i)) :
    totalUsed r ≤ totalUsed r' :=
  LawfulHeap.used_push r r' v i (reach_capInv r h) hp

theorem pushes_monotone (r r' : R) (vs : List V) (h : Reach r) (hp : C08.runPushes r vs = some r') :
    totalUsed r ≤ totalUsed r' :=
  ((pushes_of_runPushes hp).heap (reach_capInv r h)).2

/-- **C18 (clear keeps the allocations)**: after `clear` the same number of pairs is reported and no
reported capacity is smaller than before -/
theorem clear_caps [KeepsCaps R] (r : R) (h : Reach r) :
    (capsOf r).length = (capsOf (clear r)).length ∧
    ∀ k (h1 : k < (capsOf r).length) (h2 : k < (capsOf (clear r)).length), (capsOf r)[k] ≤ (capsOf (clear r))[k] :=
  leAll_iff_getElem.mp (KeepsCaps.caps_clear r (reach_capInv r h))

theorem clear_caps_total [KeepsCaps R] (r : R) (h : Reach r) : (capsOf r).sum ≤ (capsOf (clear r)).sum :=
  leAll_sum (KeepsCaps.caps_clear r (reach_capInv r h))

/-- **C18 (clear forgets the payload)**, part 1: the bytes in use do not grow on `clear` -/
theorem clear_used (r : R) (h : Reach r) : totalUsed (clear r) ≤ totalUsed r :=
  LawfulHeap.used_clear_le r (reach_capInv r h)

/-- **C18 (clear forgets the payload)**, part 2, all regions without columns: a cleared region accounts
exactly what a fresh one does — nothing, except the leading offset `0` of `ConsecutiveIndexPairs`,
which `default` holds too -/
theorem clear_used_default [ClearsToDefault R] (r : R) (h : Reach r) :
    totalUsed (clear r) = totalUsed (default : R) :=
  ClearsToDefault.used_clear r (reach_capInv r h)

/-- a fresh region accounts no more than any state reached from it by pushes alone (with
`ClearsToDefault`, `clear` brings the bytes in use back to that value: `clear_used_default`) -/
theorem default_le_pushes (r : R) (vs : List V) (hp : C08.runPushes (default : R) vs = some r) :
    totalUsed (default : R) ≤ totalUsed r :=
  pushes_monotone _ r vs Reach.default hp
end General

/-! ### part 2 for columns: what remains after `clear` -/
section Columns
variable {R V I O : Type} [Region R V I] [IdxCont O Nat] [RegionAux R] [IdxAux O] [ElemSize I]
  [HeapInv R] [IdxHeapInv O] [LawfulHeap R] [LawfulIdxHeap O]

omit [HeapInv R] [IdxHeapInv O] [LawfulHeap R] [LawfulIdxHeap O] in
/-- the column vector itself, each cleared column, and the cleared row offsets -/
theorem clear_used_columns (r : ColumnsRegion R I O) :
    totalUsed (clear r) = r.cols.length * RegionAux.selfSize R + (r.cols.map fun c => totalUsed (clear c)).sum
      + totalUsed (clear r.indices) :=
  columns_used_clear r

/-- with columns that clear to their default accounting only structural bytes remain: the `R`
headers of the retained columns, what a fresh column accounts, and the fresh row offsets -/
theorem clear_used_columns_default [ClearsToDefault R] (r : ColumnsRegion R I O) (h : Reach r) :
    totalUsed (clear r) = r.cols.length * (RegionAux.selfSize R + totalUsed (default : R))
      + totalUsed (default : ConsecPairs (OwnedRegion I) O) :=
  columns_used_clear_default r (reach_capInv r h)
end Columns

section EveryChild

theorem every_child_string {R I : Type} [Region R (List UInt8) I] [RegionAux R] (r : StringRegion R) :
    RegionAux.heap r = RegionAux.heap r.inner := rfl

theorem every_child_option {R V I : Type} [Region R V I] [RegionAux R] (r : OptionRegion R) :
    RegionAux.heap r = RegionAux.heap r.inner := rfl

theorem every_child_result {T VT IT E VE IE : Type} [Region T VT IT] [Region E VE IE] [RegionAux T] [RegionAux E]
    (r : ResultRegion T E) : RegionAux.heap r = RegionAux.heap r.oks ++ RegionAux.heap r.errs := rfl

/-- every tuple field (arity n is n nested conses) -/
theorem every_child_tuple {A VA IA B VB IB : Type} [Region A VA IA] [Region B VB IB] [RegionAux A] [RegionAux B]
    (r : TupleCons A B) : RegionAux.heap r = RegionAux.heap r.head ++ RegionAux.heap r.tail := rfl

theorem every_child_collapse {R V I : Type} [Region R V I] [HasEqv V] [RegionAux R] [IndexSize I]
    (r : CollapseSequence R I) : RegionAux.heap r = RegionAux.heap r.inner := rfl

theorem every_child_slice {R V I O : Type} [Region R V I] [IdxCont O I] [RegionAux R] [IdxAux O]
    (r : SliceRegion R O) : RegionAux.heap r = IdxAux.heap r.slices ++ RegionAux.heap r.inner := rfl

theorem every_child_consec {R V O : Type} [Region R V (Nat × Nat)] [DenseRegion R] [IdxCont O Nat] [RegionAux R]
    [IdxAux O] (r : ConsecPairs R O) : RegionAux.heap r = IdxAux.heap r.indices ++ RegionAux.heap r.inner := rfl

theorem every_child_columns {R V I O : Type} [Region R V I] [IdxCont O Nat] [RegionAux R] [IdxAux O] [ElemSize I]
    (r : ColumnsRegion R I O) :
    RegionAux.heap r = [(r.cols.length * RegionAux.selfSize R, r.cols.length * RegionAux.selfSize R)] ++
      (r.cols.map RegionAux.heap).flatten ++ RegionAux.heap r.indices := rfl

theorem every_column_reported {R V I O : Type} [Region R V I] [IdxCont O Nat] [RegionAux R] [IdxAux O] [ElemSize I]
    (r : ColumnsRegion R I O) (c : R) (hc : c ∈ r.cols) : ∀ p ∈ RegionAux.heap c, p ∈ RegionAux.heap r :=
  fun _ hp => every_child_columns r ▸
    List.mem_append_left _ (List.mem_append_right _ (List.mem_flatten_of_mem (List.mem_map_of_mem hc) hp))

theorem every_child_stack {R V I S : Type} [Region R V I] [IdxCont S I] [RegionAux R] [IdxAux S]
    (fs : FlatStack R S) : RegionAux.heap fs = RegionAux.heap fs.region ++ IdxAux.heap fs.indices := rfl

/-- both vectors of an `IndexList`; `IndexOptimized` reports its spilled list (the stride is inline) -/
theorem every_child_indexList (c : Capd IndexList) (h : IdxHeapInv.CapInv c) :
    ∃ c1 c2, c.caps = [c1, c2] ∧
      IdxAux.heap c = [(c.a.smol.length * 4, c1 * 4), (c.a.chonk.length * 8, c2 * 8)] := by
  have hl := capd_caps_len c h
  obtain ⟨a, caps⟩ := c
  match caps, hl with
  | [c1, c2], _ => exact ⟨c1, c2, rfl, rfl⟩

theorem every_child_indexOptimized (c : Capd IndexOptimized) (h : IdxHeapInv.CapInv c) :
    ∃ c1 c2, c.caps = [c1, c2] ∧
      IdxAux.heap c = [(c.a.spilled.smol.length * 4, c1 * 4), (c.a.spilled.chonk.length * 8, c2 * 8)] := by
  have hl := capd_caps_len c h
  obtain ⟨a, caps⟩ := c
  match caps, hl with
  | [c1, c2], _ => exact ⟨c1, c2, rfl, rfl⟩

theorem owned_exact {T : Type} [ElemSize T] (r : OwnedRegion T) :
    RegionAux.heap r = [(r.slices.data.length * ElemSize.bytes T, r.slices.cap * ElemSize.bytes T)] := rfl

theorem vec_exact {T : Type} [ElemSize T] (r : VecRegion T) :
    RegionAux.heap r = [(r.v.data.length * ElemSize.bytes T, r.v.cap * ElemSize.bytes T)] := rfl

theorem vecIdx_exact {T : Type} {sz : Nat} (c : Capd (VecIdx T sz)) (h : IdxHeapInv.CapInv c) :
    usedI c = (IdxCont.iter c).length * sz :=
  capd_vecIdx_used c h

theorem mirror_none {T : Type} (r : MirrorRegion T) : RegionAux.heap r = [] := rfl
end EveryChild

/-! ### lower bounds: the payload is accounted

The general statement is `lower_bound`: `stored r ≤ Σ used` for the recursively defined `stored`
(payload + index entries). Before it, the exact forms in terms of the values pushed, for the
storages everything else is built from. -/
section LowerBound

theorem owned_push_len {T : Type} (r r' : OwnedRegion T) (v : List T) (i : Nat × Nat) (hp : push r v = some (r', i)) :
    r'.slices.data.length = r.slices.data.length + v.length := by
  cases hp
  simp only [MVec.extend_data, List.length_append]

/-- `OwnedRegion<T>`: after pushing the slices `vs` into a fresh region, the bytes in use are exactly
the number of elements times `size_of::<T>()` -/
theorem lower_bound_owned {T : Type} [ElemSize T] (r : OwnedRegion T) (vs : List (List T))
    (h : C08.runPushes (default : OwnedRegion T) vs = some r) :
    totalUsed r = (vs.map List.length).sum * ElemSize.bytes T := by
  rw [owned_used, runPushes_sum (fun r : OwnedRegion T => r.slices.data.length) List.length owned_push_len h]
  exact congrArg (· * _) (Nat.zero_add _)

/-- `StringRegion<OwnedRegion<u8>>`: exactly the total number of bytes of the strings pushed -/
theorem lower_bound_string (r : StringRegion (OwnedRegion UInt8)) (vs : List (List UInt8))
    (h : C08.runPushes (default : StringRegion (OwnedRegion UInt8)) vs = some r) :
    totalUsed r = (vs.map List.length).sum := by
  have hstep : ∀ (r r' : StringRegion (OwnedRegion UInt8)) v i, push r v = some (r', i) →
      r'.inner.slices.data.length = r.inner.slices.data.length + v.length := by
    intro r r' v i hp
    obtain ⟨⟨r0, j⟩, hp0, ⟨⟩⟩ := Option.map_eq_some_iff.mp hp
    exact owned_push_len _ _ v _ hp0
  show totalUsed r.inner = _
  rw [owned_used, runPushes_sum (fun r : StringRegion (OwnedRegion UInt8) => r.inner.slices.data.length) List.length hstep h]
  exact (Nat.mul_one _).trans (Nat.zero_add _)

section Slice
variable {R V I : Type} [Region R V I] [RegionAux R] [HeapInv R] [LawfulHeap R] {sz : Nat}

/-- `SliceRegion<R, Vec<R::Index>>`: one index entry of `sz` bytes per element stored, plus
whatever the inner region accounts for the elements themselves -/
theorem lower_bound_slice (r : SliceRegion R (Capd (VecIdx I sz))) (h : Reach r) :
    totalUsed r = (IdxCont.iter r.slices).length * sz + totalUsed r.inner := by
  rw [slice_used, capd_vecIdx_used r.slices (reach_capInv r h).1]

/-- … so after pushing the slices `vss` into a fresh region the index entries alone account
`(Σ lengths) * sz` bytes, on top of the inner region's accounting -/
theorem lower_bound_slice_pushes (r : SliceRegion R (Capd (VecIdx I sz))) (vss : List (List V))
    (h : C08.runPushes (default : SliceRegion R (Capd (VecIdx I sz))) vss = some r) :
    totalUsed r = (vss.map List.length).sum * sz + totalUsed r.inner := by
  have hr : Reach r := reach_pushes _ r vss Reach.default h
  have hcount := runPushes_sum (fun r : SliceRegion R (Capd (VecIdx I sz)) => (IdxCont.iter r.slices).length) List.length
    (fun r r' v i hp => by
      obtain ⟨_, is, hlen, hs⟩ := slice_push_parts hp
      rw [hs, (LawfulIdxCont.foldl_push _ _ trivial).2, List.length_append, hlen]) h
  rw [lower_bound_slice r hr, hcount]
  exact congrArg (· * sz + _) (Nat.zero_add _)
end Slice

/-- **C18 (lower bound)**, general form: in every reachable state the used bytes cover `stored`, the
payload bytes plus index entries computed from the contents by recursion over the structure of the
region type (`Stored` instances in `Proofs/Heap.lean`) -/
theorem lower_bound {R V I : Type} [Region R V I] [RegionAux R] [HeapInv R] [LawfulHeap R] [Stored R]
    (r : R) (h : Reach r) : Stored.stored r ≤ totalUsed r :=
  Stored.stored_le r (reach_capInv r h)

/-- what `stored` unfolds to for a stack of slices of strings: the bytes, 8 per string offset,
16 per element index, 16 per stack entry -/
example (fs : FlatStack (SliceRegion (ConsecPairs (StringRegion (OwnedRegion UInt8)) (Capd (VecIdx Nat 8)))
      (Capd (VecIdx Nat 16))) (Capd (VecIdx (Nat × Nat) 16))) :
    Stored.stored fs =
      ((IdxCont.iter fs.region.slices).length * 16 + 0 +
        ((IdxCont.iter fs.region.inner.indices).length * 8 + 0 + fs.region.inner.inner.inner.slices.data.length * 1)) +
      ((IdxCont.iter fs.indices).length * 16 + 0) := rfl

/-- the exact forms in terms of the values pushed (`lower_bound_owned`, `lower_bound_string`,
`lower_bound_slice_pushes`) are proved for the core storages only; this is the weakest of them -/
theorem lower_bound_partial {T : Type} [ElemSize T] (r : OwnedRegion T) (vs : List (List T))
    (h : C08.runPushes (default : OwnedRegion T) vs = some r) :
    (vs.map List.length).sum * ElemSize.bytes T ≤ totalUsed r :=
  Nat.le_of_eq (lower_bound_owned r vs h).symm
end LowerBound

/-! ### instance resolution finds the laws for nested types -/
section Examples
abbrev IO := Capd IndexOptimized

example : LawfulHeap (ColumnsRegion (CollapseSequence (ConsecPairs Str IO) Nat) Nat IO) := inferInstance
example : LawfulHeap (FlatStack (SliceRegion (ConsecPairs Str IO) (Capd IndexList)) (Capd (VecIdx (Nat × Nat) 16))) :=
  inferInstance
example : LawfulHeap (TupleCons (OptionRegion Str) (TupleCons (OwnedRegion Nat) TupleNil)) := inferInstance
example : LawfulHeap (ResultRegion (SliceRegion (MirrorRegion Nat) (Capd (VecIdx Nat 1))) Str) := inferInstance
example : LawfulHeap (ConsecPairs (SliceRegion (CollapseSequence Str (Nat × Nat)) (Capd PairIdx)) (Capd (VecIdx Nat 8))) :=
  inferInstance
example : LawfulHeap (ColumnsRegion (VecRegion Nat) Nat (Capd (VecIdx Nat 8))) := inferInstance
example : LawfulHeap (StringRegion (ConsecPairs (OwnedRegion UInt8) (Capd IndexList))) := inferInstance
example : ClearsToDefault (FlatStack (SliceRegion (ConsecPairs Str IO) (Capd IndexList)) (Capd (VecIdx (Nat × Nat) 16))) :=
  inferInstance
example : KeepsCaps (ColumnsRegion (CollapseSequence (ConsecPairs Str IO) Nat) Nat IO) := inferInstance
example : KeepsCaps (FlatStack (SliceRegion (ConsecPairs Str IO) (Capd IndexList)) (Capd (VecIdx (Nat × Nat) 16))) :=
  inferInstance
-- the coded regions: sound and monotone; the Huffman container reports nothing (`todo!()` in the crate)
example : LawfulHeap (FlatStack (ConsecPairs Codec.Region IO) (Capd IndexList)) := inferInstance
example : LawfulHeap (SliceRegion HuffU8 (Capd PairIdx)) := inferInstance
example : Stored (ColumnsRegion (CollapseSequence (ConsecPairs Str IO) Nat) Nat IO) := inferInstance
example : LawfulIdxHeap (Capd IndexOptimized) := inferInstance
example : LawfulIdxHeap (Capd IndexList) := inferInstance
example : LawfulIdxHeap (Capd (VecIdx (Nat × Nat) 16)) := inferInstance

/-! non-vacuity: populated regions, their reports before and after `clear` -/
abbrev Stack1 := FlatStack (SliceRegion (ConsecPairs Str IO) (Capd IndexList)) (Capd (VecIdx (Nat × Nat) 16))

/-- in the order of the report: the element offsets (three `u32` of four allocated; the `u64` vector is empty),
the string offsets (stride inline, one spilled `u32`), the bytes (5 of 5), the two `(usize, usize)` stack entries -/
example : (C08.runPushes (default : Stack1) [[[104, 105], []], [[1, 2, 3]]]).map
      (fun r => (RegionAux.heap r, RegionAux.heap (clear r)))
    = some ([(12, 16), (0, 0), (4, 4), (0, 0), (5, 5), (32, 32)],
            [(0, 16), (0, 0), (0, 4), (0, 0), (0, 5), (0, 32)]) := by decide

abbrev Cols1 := ColumnsRegion (CollapseSequence (ConsecPairs Str IO) Nat) Nat IO

/-- three columns of 128 bytes each stay accounted after `clear` (128 is `RegionAux.selfSize` of the column type,
the `size_of` modelled in `Model/Ops.lean`: 24 + 80 + 8 for the consec region, 16 for the `Option` of the last
index). Column 0 receives `[1, 2, 3]` twice in a row and stores it once: 5 bytes, not 8. -/
example : (C08.runPushes (default : Cols1) [[[104, 105], []], [[1, 2, 3]], [[1, 2, 3], [1], [1]]]).map
      (fun r => (RegionAux.heap r, RegionAux.heap (clear r)))
    = some ([(384, 384), (4, 4), (0, 0), (5, 5), (4, 4), (0, 0), (1, 1), (0, 0), (0, 0), (1, 1), (8, 8), (0, 0), (48, 64)],
            [(384, 384), (0, 4), (0, 0), (0, 5), (0, 4), (0, 0), (0, 1), (0, 0), (0, 0), (0, 1), (0, 8), (0, 0), (0, 64)]) := by
  decide

example (r : Stack1) (h : C08.runPushes (default : Stack1) [[[104, 105], []], [[1, 2, 3]]] = some r) :
    (∀ p ∈ RegionAux.heap r, p.1 ≤ p.2) ∧ totalUsed (clear r) = totalUsed (default : Stack1) :=
  have hr := reach_pushes _ r _ Reach.default h
  ⟨used_le_cap r hr, clear_used_default r hr⟩

/-- why the dictionary-coded region has no `KeepsCaps` instance: the model reports its byte store as
`(len, len)` and clears to `default`, so the reported capacity drops (in the crate the store is an
`OwnedRegion<u8>` whose `Vec` keeps its allocation; the codec itself reports nothing) -/
example : (C08.runPushes (Region.default : Codec.Region) [[7]]).map (fun r => (capsOf r, capsOf (clear r)))
    = some ([1], [0]) := by decide
end Examples

end C18
end FC
