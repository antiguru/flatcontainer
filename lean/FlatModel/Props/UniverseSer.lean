import FlatModel.Props.UniverseOps
import FlatModel.Props.C16
/-! C16 (serialisation round trip) for every composition.

`Ser` (serde's data model, `Model/Serde.lean`) and `SerClone` (`de ∘ ser = some ∘ clone`,
`Proofs/Serde.lean`) are lifted to the universe of `Props/Universe.lean`, over the same types `d.R`.

Sub-universe `d.Serde`:
* no `codec`, `huffman`, `huffmanU8` anywhere: the model has no `Ser Codec.Region`, `Ser Huff.Container`,
  `Ser HuffU8` (the crate's serde derives are on the structural regions);
* the second argument of every `tupleCons` is a tuple (`tupleNil` or `tupleCons`): `Ser (TupleCons A B)`
  collects the fields of the struct through `SerFields B`, which has instances for `TupleNil` and
  `TupleCons` only. (`RDesc` allows `tupleCons a b` for any `b`; the crate's tuple regions are the
  `tupleNil`-terminated ones.)

Payload and index shapes need `Ser`, which the model has for every shape; `Ty.ser` picks the instance
instance resolution picks (index tuples `(A, B, …)` are flat sequences: the high-priority instance
through `SerTuple`). -/
namespace FC.Universe
open FC Region

structure TupPack (α : Type) where
  st : SerTuple α
  lawful : @LawfulSerTuple α st

/-- the `Ser` instance of a shape, its law, and (for right-nested pairs ending in `Unit`) the
`SerTuple` instance -/
structure SerPack (α : Type) where
  ser : Ser α
  lawful : @LawfulSer α ser
  tup : Option (TupPack α)

/-- as instance resolution chooses: a pair whose second component is an index tuple is a flat
sequence (priority `high` in `Model/Serde.lean`), any other pair a two-element sequence -/
def Ty.serPack : (t : Ty) → SerPack t.interp
  | .nat => ⟨inferInstanceAs (Ser Nat), inferInstanceAs (LawfulSer Nat), none⟩
  | .unit => ⟨inferInstanceAs (Ser Unit), inferInstanceAs (LawfulSer Unit),
      some ⟨inferInstanceAs (SerTuple Unit), inferInstanceAs (LawfulSerTuple Unit)⟩⟩
  | .f64 => ⟨inferInstanceAs (Ser F64), inferInstanceAs (LawfulSer F64), none⟩
  | .u8 => ⟨inferInstanceAs (Ser UInt8), inferInstanceAs (LawfulSer UInt8), none⟩
  | .list t =>
    letI := t.serPack.ser; letI := t.serPack.lawful
    ⟨inferInstanceAs (Ser (List t.interp)), inferInstanceAs (LawfulSer (List t.interp)), none⟩
  | .opt t =>
    letI := t.serPack.ser; letI := t.serPack.lawful
    ⟨inferInstanceAs (Ser (Option t.interp)), inferInstanceAs (LawfulSer (Option t.interp)), none⟩
  | .res ok err =>
    letI := ok.serPack.ser; letI := ok.serPack.lawful; letI := err.serPack.ser; letI := err.serPack.lawful
    ⟨inferInstanceAs (Ser (Except err.interp ok.interp)), inferInstanceAs (LawfulSer (Except err.interp ok.interp)), none⟩
  | .pair a b =>
    letI := a.serPack.ser; letI := a.serPack.lawful
    match b.serPack.tup with
    | some tb =>
      letI := tb.st; letI := tb.lawful
      ⟨inferInstanceAs (Ser (a.interp × b.interp)), inferInstanceAs (LawfulSer (a.interp × b.interp)),
        some ⟨inferInstanceAs (SerTuple (a.interp × b.interp)), inferInstanceAs (LawfulSerTuple (a.interp × b.interp))⟩⟩
    | none =>
      letI := b.serPack.ser; letI := b.serPack.lawful
      ⟨inferInstanceAs (Ser (a.interp × b.interp)), inferInstanceAs (LawfulSer (a.interp × b.interp)), none⟩

@[instance_reducible] def Ty.ser (t : Ty) : Ser t.interp := t.serPack.ser
theorem Ty.lawfulSer (t : Ty) : @LawfulSer t.interp t.ser := t.serPack.lawful

section TyAgrees
example : Ty.ser .nat = (inferInstance : Ser Nat) := rfl
example : Ty.ser .range = (inferInstance : Ser (Nat × Nat)) := rfl
example : Ty.ser .bytes = (inferInstance : Ser (List UInt8)) := rfl
example : Ty.ser (.opt .range) = (inferInstance : Ser (Option (Nat × Nat))) := rfl
example : Ty.ser (.res .range .nat) = (inferInstance : Ser (Except Nat (Nat × Nat))) := rfl
example : Ty.ser (.pair .range .unit) = (inferInstance : Ser ((Nat × Nat) × Unit)) := rfl
example : Ty.ser (.pair (.opt .range) (.pair .range .unit)) =
    (inferInstance : Ser ((Option (Nat × Nat)) × ((Nat × Nat) × Unit))) := rfl
example : Ser.ser (self := Ty.ser (.pair .nat (.pair .nat .unit))) (1, (2, ())) = SVal.seq [SVal.nat 1, SVal.nat 2] := rfl
example : Ser.ser (self := Ty.ser .range) (1, 2) = SVal.seq [SVal.nat 1, SVal.nat 2] := rfl
example : Ser.ser (self := Ty.ser (.pair .range .range)) ((1, 2), (3, 4)) =
    SVal.seq [SVal.seq [SVal.nat 1, SVal.nat 2], SVal.seq [SVal.nat 3, SVal.nat 4]] := rfl
end TyAgrees

structure IdxSer {T : Type} (o : IdxBundle T) (a : IdxOps o) where
  [ser : Ser o.O]
  serClone : @SerCloneIdx o.O T o.inst a.aux ser

def IdxKind.ser : {i : Ty} → (k : IdxKind i) → IdxSer k.bundle k.ops
  | i, .vec sz =>
    letI := i.ser; letI := i.lawfulSer
    @IdxSer.mk _ (IdxKind.vec sz).bundle (IdxKind.vec sz).ops
      (inferInstanceAs (Ser (Capd (VecIdx i.interp sz)))) (inferInstanceAs (SerCloneIdx (Capd (VecIdx i.interp sz))))
  | _, .opt => @IdxSer.mk _ IdxKind.opt.bundle IdxKind.opt.ops
      (inferInstanceAs (Ser (Capd IndexOptimized))) (inferInstanceAs (SerCloneIdx (Capd IndexOptimized)))
  | _, .list => @IdxSer.mk _ IdxKind.list.bundle IdxKind.list.ops
      (inferInstanceAs (Ser (Capd IndexList))) (inferInstanceAs (SerCloneIdx (Capd IndexList)))

def RDesc.IsTuple : {v : Ty} → {ix : Ix} → RDesc v ix → Prop
  | _, _, .tupleNil => True
  | _, _, .tupleCons _ _ => True
  | _, _, .mirror _ => False
  | _, _, .owned _ => False
  | _, _, .vec _ => False
  | _, _, .string _ => False
  | _, _, .option _ => False
  | _, _, .result _ _ => False
  | _, _, .collapse _ => False
  | _, _, .slice _ _ => False
  | _, _, .consec _ _ => False
  | _, _, .columns _ _ => False
  | _, _, .codec => False
  | _, _, .huffman => False
  | _, _, .huffmanU8 => False
  | _, _, .stack _ _ => False

instance RDesc.decIsTuple {v : Ty} {ix : Ix} (d : RDesc v ix) : Decidable d.IsTuple := by
  cases d <;> simp only [RDesc.IsTuple] <;> infer_instance

def RDesc.Serde : {v : Ty} → {ix : Ix} → RDesc v ix → Prop
  | _, _, .mirror _ => True
  | _, _, .owned _ => True
  | _, _, .vec _ => True
  | _, _, .string d => d.Serde
  | _, _, .option d => d.Serde
  | _, _, .result t e => t.Serde ∧ e.Serde
  | _, _, .tupleNil => True
  | _, _, .tupleCons a b => a.Serde ∧ b.Serde ∧ b.IsTuple
  | _, _, .collapse d => d.Serde
  | _, _, .slice d _ => d.Serde
  | _, _, .consec d _ => d.Serde
  | _, _, .columns d _ => d.Serde
  | _, _, .codec => False
  | _, _, .huffman => False
  | _, _, .huffmanU8 => False
  | _, _, .stack d _ => d.Serde

instance RDesc.decSerde : {v : Ty} → {ix : Ix} → (d : RDesc v ix) → Decidable d.Serde
  | _, _, .mirror _ => isTrue trivial
  | _, _, .owned _ => isTrue trivial
  | _, _, .vec _ => isTrue trivial
  | _, _, .string d => d.decSerde
  | _, _, .option d => d.decSerde
  | _, _, .result t e => @instDecidableAnd _ _ t.decSerde e.decSerde
  | _, _, .tupleNil => isTrue trivial
  | _, _, .tupleCons a b => @instDecidableAnd _ _ a.decSerde (@instDecidableAnd _ _ b.decSerde b.decIsTuple)
  | _, _, .collapse d => d.decSerde
  | _, _, .slice d _ => d.decSerde
  | _, _, .consec d _ => d.decSerde
  | _, _, .columns d _ => d.decSerde
  | _, _, .codec => isFalse id
  | _, _, .huffman => isFalse id
  | _, _, .huffmanU8 => isFalse id
  | _, _, .stack d _ => d.decSerde

theorem RDesc.uncoded_of_serde : {v : Ty} → {ix : Ix} → (d : RDesc v ix) → d.Serde → d.Uncoded
  | _, _, .mirror _, _ => trivial
  | _, _, .owned _, _ => trivial
  | _, _, .vec _, _ => trivial
  | _, _, .string d, h => d.uncoded_of_serde h
  | _, _, .option d, h => d.uncoded_of_serde h
  | _, _, .result t e, h => ⟨t.uncoded_of_serde h.1, e.uncoded_of_serde h.2⟩
  | _, _, .tupleNil, _ => trivial
  | _, _, .tupleCons a b, h => ⟨a.uncoded_of_serde h.1, b.uncoded_of_serde h.2.1⟩
  | _, _, .collapse d, h => d.uncoded_of_serde h
  | _, _, .slice d _, h => d.uncoded_of_serde h
  | _, _, .consec d _, h => d.uncoded_of_serde h
  | _, _, .columns d _, h => d.uncoded_of_serde h
  | _, _, .stack d _, h => d.uncoded_of_serde h

structure SerData {v : Ty} {ix : Ix} (d : RDesc v ix) where
  ser : Ser d.R
  fields : d.IsTuple → SerFields d.R

def RDesc.serData : {v : Ty} → {ix : Ix} → (d : RDesc v ix) → d.Serde → SerData d
  | _, _, .mirror t, _ => ⟨inferInstanceAs (Ser (MirrorRegion t.interp)), False.elim⟩
  | _, _, .owned t, _ => letI := t.ser; ⟨inferInstanceAs (Ser (OwnedRegion t.interp)), False.elim⟩
  | _, _, .vec t, _ => letI := t.ser; ⟨inferInstanceAs (Ser (VecRegion t.interp)), False.elim⟩
  | _, .any _, .string d, h => letI := (d.serData h).ser; ⟨inferInstanceAs (Ser (StringRegion d.R)), False.elim⟩
  | _, .dense, .string d, h => letI := (d.serData h).ser; ⟨inferInstanceAs (Ser (StringRegion d.R)), False.elim⟩
  | _, _, .option d, h => letI := (d.serData h).ser; ⟨inferInstanceAs (Ser (OptionRegion d.R)), False.elim⟩
  | _, _, .result t e, h =>
    letI := (t.serData h.1).ser; letI := (e.serData h.2).ser
    ⟨inferInstanceAs (Ser (ResultRegion t.R e.R)), False.elim⟩
  | _, _, .tupleNil, _ => ⟨inferInstanceAs (Ser TupleNil), fun _ => inferInstanceAs (SerFields TupleNil)⟩
  | _, _, .tupleCons a b, h =>
    letI := (a.serData h.1).ser; letI := (b.serData h.2.1).fields h.2.2
    ⟨inferInstanceAs (Ser (TupleCons a.R b.R)), fun _ => inferInstanceAs (SerFields (TupleCons a.R b.R))⟩
  | _, _, .collapse (ix := ix) d, h =>
    letI := (d.serData h).ser; letI := ix.ty.ser
    ⟨inferInstanceAs (Ser (CollapseSequence d.R ix.ty.interp)), False.elim⟩
  | _, _, .slice d k, h =>
    letI := (d.serData h).ser; letI := k.ser.ser
    ⟨inferInstanceAs (Ser (SliceRegion d.R k.bundle.O)), False.elim⟩
  | _, _, .consec d k, h =>
    letI : Ser d.bundleX.R := (d.serData h).ser; letI := k.ser.ser
    ⟨inferInstanceAs (Ser (ConsecPairs d.bundleX.R k.bundle.O)), False.elim⟩
  | _, _, .columns (ix := ix) d k, h =>
    letI := (d.serData h).ser; letI := ix.ty.ser; letI := k.ser.ser
    ⟨inferInstanceAs (Ser (ColumnsRegion d.R ix.ty.interp k.bundle.O)), False.elim⟩
  | _, _, .stack d k, h =>
    letI := (d.serData h).ser; letI := k.ser.ser
    ⟨inferInstanceAs (Ser (FlatStack d.R k.bundle.O)), False.elim⟩

@[instance_reducible] def RDesc.ser {v : Ty} {ix : Ix} (d : RDesc v ix) (h : d.Serde) : Ser d.R := (d.serData h).ser

section Laws
variable [σ : SizeEnv]

structure SerLaws {v : Ty} {ix : Ix} (d : RDesc v ix) (s : SerData d) : Prop where
  clone : @SerClone d.R _ _ d.bundle.inst d.aux s.ser
  fields : ∀ ht : d.IsTuple, @SerFieldsClone d.R _ _ d.bundle.inst d.aux (s.fields ht)

theorem RDesc.serLaws : {v : Ty} → {ix : Ix} → (d : RDesc v ix) → (h : d.Serde) → SerLaws d (d.serData h)
  | _, _, .mirror t, _ => ⟨inferInstanceAs (SerClone (MirrorRegion t.interp)), nofun⟩
  | _, _, .owned t, _ =>
    letI := σ.elem t; letI := t.ser; letI := t.lawfulSer
    ⟨inferInstanceAs (SerClone (OwnedRegion t.interp)), nofun⟩
  | _, _, .vec t, _ =>
    letI := σ.elem t; letI := t.ser; letI := t.lawfulSer
    ⟨inferInstanceAs (SerClone (VecRegion t.interp)), nofun⟩
  | _, .any i, .string d, h =>
    letI : Region d.R (List UInt8) i.interp := d.bundle.inst
    letI : RegionAux d.R := d.aux
    letI := (d.serData h).ser; letI := (d.serLaws h).clone
    ⟨inferInstanceAs (SerClone (StringRegion d.R)), nofun⟩
  | _, .dense, .string d, h =>
    letI : Region d.R (List UInt8) (Nat × Nat) := d.bundle.inst
    letI : RegionAux d.R := d.aux
    letI := (d.serData h).ser; letI := (d.serLaws h).clone
    ⟨inferInstanceAs (SerClone (StringRegion d.R)), nofun⟩
  | _, _, .option d, h =>
    letI := (d.serData h).ser; letI := (d.serLaws h).clone
    ⟨inferInstanceAs (SerClone (OptionRegion d.R)), nofun⟩
  | _, _, .result t e, h =>
    letI := (t.serData h.1).ser; letI := (e.serData h.2).ser
    letI := (t.serLaws h.1).clone; letI := (e.serLaws h.2).clone
    ⟨inferInstanceAs (SerClone (ResultRegion t.R e.R)), nofun⟩
  | _, _, .tupleNil, _ => ⟨inferInstanceAs (SerClone TupleNil), fun _ => inferInstanceAs (SerFieldsClone TupleNil)⟩
  | _, _, .tupleCons a b, h =>
    letI := (a.serData h.1).ser; letI := (b.serData h.2.1).fields h.2.2
    letI := (a.serLaws h.1).clone; letI := (b.serLaws h.2.1).fields h.2.2
    ⟨inferInstanceAs (SerClone (TupleCons a.R b.R)), fun _ => inferInstanceAs (SerFieldsClone (TupleCons a.R b.R))⟩
  | v, _, .collapse (ix := ix) d, h =>
    letI := v.hasEqv; letI := σ.index ix.ty
    letI := (d.serData h).ser; letI := ix.ty.ser; letI := ix.ty.lawfulSer; letI := (d.serLaws h).clone
    ⟨inferInstanceAs (SerClone (CollapseSequence d.R ix.ty.interp)), nofun⟩
  | _, _, .slice d k, h =>
    letI := k.ops.aux; letI := (d.serData h).ser; letI := k.ser.ser
    letI := (d.serLaws h).clone; letI := k.ser.serClone
    ⟨inferInstanceAs (SerClone (SliceRegion d.R k.bundle.O)), nofun⟩
  | _, _, .consec d k, h =>
    letI : RegionAux d.bundleX.R := d.aux
    letI : Ser d.bundleX.R := (d.serData h).ser
    letI : SerClone d.bundleX.R := (d.serLaws h).clone
    letI := k.ops.aux; letI := k.ser.ser; letI := k.ser.serClone
    ⟨inferInstanceAs (SerClone (ConsecPairs d.bundleX.R k.bundle.O)), nofun⟩
  | _, _, .columns (ix := ix) d k, h =>
    letI := σ.elem ix.ty; letI := k.ops.aux
    letI := (d.serData h).ser; letI := ix.ty.ser; letI := ix.ty.lawfulSer; letI := k.ser.ser
    letI := (d.serLaws h).clone; letI := k.ser.serClone
    ⟨inferInstanceAs (SerClone (ColumnsRegion d.R ix.ty.interp k.bundle.O)), nofun⟩
  | _, _, .stack d k, h =>
    letI := k.ops.aux; letI := (d.serData h).ser; letI := k.ser.ser
    letI := (d.serLaws h).clone; letI := k.ser.serClone
    ⟨inferInstanceAs (SerClone (FlatStack d.R k.bundle.O)), nofun⟩

theorem RDesc.serClone {v : Ty} {ix : Ix} (d : RDesc v ix) (h : d.Serde) :
    @SerClone d.R _ _ d.bundle.inst d.aux (d.ser h) := (d.serLaws h).clone

end Laws

section Props
variable [SizeEnv] {v : Ty} {ix : Ix}

/-- **C16 for every composition** with a serde implementation: `deserialize(serialize(r))` succeeds
and is, field by field, `r.clone()` (nothing skipped, capacities exact); wherever the invariant
holds the deserialised value satisfies it too and continues like the original: equal reads at every
valid index, and after any further pushes equal returned indices, equal refusals, equal reads. -/
theorem C16_every_composition (d : RDesc v ix) (h : d.Serde) (r : d.R) :
    letI := d.ser h
    Ser.de (Ser.ser r) = some (RegionAux.clone r) ∧
    (Inv r → ∃ r', Ser.de (Ser.ser r) = some r' ∧ Sim r' r ∧ Inv r' ∧ ObsEq r' r) :=
  letI := d.ser h
  haveI := d.serClone h
  ⟨C16.de_ser r, fun hi => ⟨RegionAux.clone r, C16.de_ser r, (LawfulAux.clone_sim r hi).1, (LawfulAux.clone_sim r hi).2,
    sim_observe (LawfulAux.clone_sim r hi) hi⟩⟩

/-- C16 in every state reachable by pushes and clears -/
theorem C16_reachable (d : RDesc v ix) (h : d.Serde) (r : d.R) (hr : Reachable r) :
    letI := d.ser h
    ∃ r', Ser.de (Ser.ser r) = some r' ∧ ObsEq r' r :=
  letI := d.ser h
  haveI := d.serClone h
  C16.continuation_reachable r hr

/-- C16 in every state reachable through the whole API -/
theorem C16_reach (d : RDesc v ix) (h : d.Serde) (r : d.R) (hr : Reach r) :
    letI := d.ser h
    ∃ r', Ser.de (Ser.ser r) = some r' ∧ ObsEq r' r :=
  letI := d.ser h
  haveI := d.serClone h
  haveI := d.lawfulMerge (d.uncoded_of_serde h)
  C16.continuation_reach r hr

theorem C16_twice (d : RDesc v ix) (h : d.Serde) (r r' : d.R) :
    letI := d.ser h
    Ser.de (Ser.ser r) = some r' → Ser.de (Ser.ser r') = some (RegionAux.clone (RegionAux.clone r)) :=
  letI := d.ser h
  haveI := d.serClone h
  C16.de_ser_twice r r'

omit [SizeEnv] in
theorem C16_every_shape (t : Ty) (a : t.interp) : Ser.de (self := t.ser) (Ser.ser (self := t.ser) a) = some a :=
  letI := t.ser
  haveI := t.lawfulSer
  LawfulSer.de_ser a

omit [SizeEnv] in
theorem C16_every_index_container {i : Ty} (k : IdxKind i) (c : k.bundle.O) :
    letI := k.ops.aux; letI := k.ser.ser
    Ser.de (Ser.ser c) = some (IdxAux.clone c) :=
  letI := k.ops.aux; letI := k.ser.ser
  haveI := k.ser.serClone
  SerCloneIdx.de_ser c

end Props

/-! ### non-vacuity and agreement with instance resolution -/
section Examples

example : exColumns.Serde := by decide
example : exStack.Serde := by decide
example : exTuple.Serde := by decide
example : exSlice.Serde := by decide
example : exCollapse.Serde := by decide
example : exResult.Serde := by decide
example : exOddSize.Serde := by decide
example : ¬ exCodec.Serde := by decide
example : ¬ exHuff.Serde := by decide
/-- a `tupleCons` that does not end in `tupleNil` has no `SerFields` -/
example : ¬ (RDesc.tupleCons (.mirror .nat) (.mirror .nat)).Serde := by decide
example : (RDesc.tupleCons (.mirror .nat) (.mirror .nat)).Uncoded := by decide

section Agrees
-- sealed for the reason given in UniverseOps (`section Agrees`)
attribute [local irreducible] instRegionMirrorRegion instRegionOwnedRegionListProdNat instRegionVecRegionNat instRegionStringRegionListUInt8 instRegionOptionRegionOption instRegionResultRegionExcept
  instRegionTupleNilUnit instRegionTupleConsProd instRegionCollapseSequenceOfHasEqv instRegionSliceRegionListProdNat instRegionConsecPairsNatOfDenseRegionOfIdxCont
  instRegionColumnsRegionListNat instRegionRegionListUInt8ProdNat instRegionContainerListNatProd instRegionHuffU8ListUInt8ProdNat instRegionFlatStackNat
example : exColumns.ser (by decide) = (inferInstance : Ser (ColumnsRegion (CollapseSequence (ConsecPairs
    (StringRegion (OwnedRegion UInt8)) (Capd IndexOptimized)) Nat) Nat (Capd IndexOptimized))) := rfl
example : exStack.ser (by decide) = (inferInstance : Ser (FlatStack (ConsecPairs (OwnedRegion UInt8) (Capd IndexList))
    (Capd IndexOptimized))) := rfl
example : exTuple.ser (by decide) = (inferInstance : Ser (TupleCons (OptionRegion (StringRegion (OwnedRegion UInt8)))
    (TupleCons (ResultRegion (OwnedRegion Nat) (MirrorRegion Nat)) TupleNil))) := rfl
example : exSlice.ser (by decide) = (inferInstance : Ser (SliceRegion (SliceRegion (StringRegion (OwnedRegion UInt8))
    (Capd (VecIdx (Nat × Nat) 16))) (Capd (VecIdx (Nat × Nat) 16)))) := rfl
example : exCollapse.ser (by decide) = (inferInstance : Ser (CollapseSequence (MirrorRegion F64) F64)) := rfl
example : exResult.ser (by decide) = (inferInstance : Ser (FlatStack (ResultRegion (SliceRegion (MirrorRegion Nat)
    (Capd (VecIdx Nat 1))) (StringRegion (OwnedRegion UInt8))) (Capd (VecIdx (Except (Nat × Nat) (Nat × Nat)) 24)))) := rfl
-- an index tuple inside an index container: the flat `SerTuple` form, as resolution picks it
example : (RDesc.stack (.tupleCons (.option str) (.tupleCons (.owned .nat) .tupleNil)) .vecStd).ser (by decide) =
    (inferInstance : Ser (FlatStack (TupleCons (OptionRegion (StringRegion (OwnedRegion UInt8))) (TupleCons (OwnedRegion Nat) TupleNil))
      (Capd (VecIdx ((Option (Nat × Nat)) × ((Nat × Nat) × Unit)) 40)))) := rfl
-- a remembered index of pair shape inside `CollapseSequence`
example : (RDesc.collapse str).ser (by decide) =
    (inferInstance : Ser (CollapseSequence (StringRegion (OwnedRegion UInt8)) (Nat × Nat))) := rfl
end Agrees

section Std
attribute [local instance] SizeEnv.std

/-- the round trip, evaluated: a populated columns / collapse / consec / string region with slack
capacity (4 for the 3 stored row indices) comes back as its exact-capacity clone, remembered index
and stride state included -/
example : (run (Region.default : exColumns.R) [.push [[104, 105], []], .push [[104, 105]], .push []]).bind
      (fun r => Ser.de (self := exColumns.ser (by decide)) (Ser.ser (self := exColumns.ser (by decide)) r)) =
    (run (Region.default : exColumns.R) [.push [[104, 105], []], .push [[104, 105]], .push []]).map RegionAux.clone := by rfl
example : (run (Region.default : exTuple.R) [.push (some [1, 2], (.ok [5, 6], ())), .push (none, (.error 7, ()))]).bind
      (fun r => Ser.de (self := exTuple.ser (by decide)) (Ser.ser (self := exTuple.ser (by decide)) r)) =
    (run (Region.default : exTuple.R) [.push (some [1, 2], (.ok [5, 6], ())), .push (none, (.error 7, ()))]).map RegionAux.clone := by rfl

example : ∃ r : exColumns.R, index r 1 = some [[104, 105]] ∧
    ∃ r', Ser.de (self := exColumns.ser (by decide)) (Ser.ser (self := exColumns.ser (by decide)) r) = some r' ∧ ObsEq r' r := by
  obtain ⟨r, hr, hx⟩ := exColumns_populated
  exact ⟨r, hx, C16_reachable exColumns (by decide) r hr⟩
example : ∃ r : exStack.R, index r 1 = some [3] ∧
    ∃ r', Ser.de (self := exStack.ser (by decide)) (Ser.ser (self := exStack.ser (by decide)) r) = some r' ∧ ObsEq r' r := by
  obtain ⟨r, hr, hx⟩ := exStack_populated
  exact ⟨r, hx, C16_reachable exStack (by decide) r hr⟩
example : ∃ r : exTuple.R, Reachable r ∧
    ∃ r', Ser.de (self := exTuple.ser (by decide)) (Ser.ser (self := exTuple.ser (by decide)) r) = some r' ∧ ObsEq r' r := by
  obtain ⟨r, hr, -⟩ := exTuple_populated
  exact ⟨r, hr, C16_reachable exTuple (by decide) r hr⟩
example : ∃ r : exSlice.R, Reachable r ∧
    ∃ r', Ser.de (self := exSlice.ser (by decide)) (Ser.ser (self := exSlice.ser (by decide)) r) = some r' ∧ ObsEq r' r := by
  obtain ⟨r, hr, -⟩ := exSlice_populated
  exact ⟨r, hr, C16_reachable exSlice (by decide) r hr⟩
example : ∃ r : exResult.R, Reachable r ∧
    ∃ r', Ser.de (self := exResult.ser (by decide)) (Ser.ser (self := exResult.ser (by decide)) r) = some r' ∧ ObsEq r' r := by
  obtain ⟨r, hr, -⟩ := exResult_populated
  exact ⟨r, hr, C16_reachable exResult (by decide) r hr⟩
example : ∃ r : exOddSize.R, Reachable r ∧
    ∃ r', Ser.de (self := exOddSize.ser (by decide)) (Ser.ser (self := exOddSize.ser (by decide)) r) = some r' ∧ ObsEq r' r := by
  obtain ⟨r, hr, -⟩ := exOddSize_populated
  exact ⟨r, hr, C16_reachable exOddSize (by decide) r hr⟩

end Std
end Examples

end FC.Universe
