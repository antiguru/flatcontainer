import FlatModel.Props.C01
import FlatModel.Proofs.HuffRegion
/-! C06 (region level): the Huffman containers are lawful regions, so C01 (round trip), C02 (frame) and
C08 (clear is fresh) and every composition theorem apply to them by instance resolution, within the
acceptance contract: raw mode accepts everything; coded mode accepts the items all of whose symbols
have a code, under the invariant `EncOK c ∧ TableOK c ∧ WFStore bytes bits`, which `merge_regions`
establishes (`merge_inv`) for valid statistics (`stats_valid`) and codes of depth ≤ 57. -/
namespace FC.C06
open FC FC.Huff Region

example : LawfulRegion Huff.Container := inferInstance
example : LawfulRegion HuffU8 := inferInstance
example : LawfulDense Huff.Container := inferInstance
example : LawfulDense HuffU8 := inferInstance
example : DenseSim Huff.Container := inferInstance
example : DenseSim HuffU8 := inferInstance
example : LawfulRegion (ConsecPairs HuffU8 (Capd IndexOptimized)) := inferInstance
example : LawfulRegion (SliceRegion HuffU8 (Capd (VecIdx (Nat × Nat) 16))) := inferInstance
example : LawfulRegion (FlatStack Huff.Container (Capd (VecIdx (Nat × Nat) 16))) := inferInstance
example : LawfulRegion (FlatStack HuffU8 (Capd (VecIdx (Nat × Nat) 16))) := inferInstance
example : LawfulRegion (FlatStack (ConsecPairs HuffU8 (Capd IndexOptimized)) (Capd IndexOptimized)) := inferInstance
example : LawfulRegion (FlatStack (SliceRegion HuffU8 (Capd (VecIdx (Nat × Nat) 16))) (Capd (VecIdx (Nat × Nat) 16))) :=
  inferInstance

theorem inv_raw (h : Container) (hr : h.coded = none) : Inv h := Container.inv_raw hr
theorem inv_coded (h : Container) (c : Code) (bytes : List Nat) (bits : Nat) (hc : h.coded = some (c, bytes, bits)) :
    Inv h ↔ (EncOK c ∧ TableOK c ∧ WFStore bytes bits) := Container.inv_coded hc
theorem valid_raw (h : Container) (hr : h.coded = none) (i : Nat × Nat) :
    Valid h i ↔ (i.1 ≤ i.2 ∧ i.2 ≤ h.raw.length) := Container.valid_raw hr i
theorem valid_coded (h : Container) (c : Code) (bytes : List Nat) (bits : Nat) (hc : h.coded = some (c, bytes, bits))
    (i : Nat × Nat) : Valid h i ↔ ∃ w, Denotes c bytes bits i w := Container.valid_coded hc i
theorem accepts_raw (h : Container) (hr : h.coded = none) (v : List Nat) : Accepts h v := Container.accepts_raw hr v
theorem accepts_coded (h : Container) (c : Code) (bytes : List Nat) (bits : Nat) (hc : h.coded = some (c, bytes, bits))
    (v : List Nat) : Accepts h v ↔ ∀ s ∈ v, (c.lookup s).isSome := Container.accepts_coded hc v

/-- **C01** for `Huff.Container` (symbols are `Nat`): under the invariant, an accepted item is stored and read back -/
theorem roundtrip (h : Container) (hi : Inv h) (v : List Nat) (ha : Accepts h v) :
    ∃ h' i, push h v = some (h', i) ∧ index h' i = some v ∧ Inv h' ∧ Valid h' i := by
  obtain ⟨h', i, hp, v', hx, hs⟩ := LawfulRegion.push_ok h v hi ha
  obtain ⟨h1, h2⟩ := LawfulRegion.push_inv h h' v i hi hp
  exact ⟨h', i, hp, by rw [hx]; exact congrArg some hs, h1, h2⟩

/-- … and an item that is not accepted (a symbol without a code, in coded mode) is refused -/
theorem refused (h : Container) (hi : Inv h) (v : List Nat) (hna : ¬ Accepts h v) : push h v = none :=
  LawfulRegion.push_refuses h v hi hna

/-- **C01** for `HuffmanContainer<u8>` -/
theorem roundtrip_u8 (h : HuffU8) (hi : Inv h) (v : List UInt8) (ha : Accepts h v) :
    ∃ h' i, push h v = some (h', i) ∧ index h' i = some v ∧ Inv h' ∧ Valid h' i := by
  obtain ⟨h', i, hp, v', hx, hs⟩ := LawfulRegion.push_ok h v hi ha
  obtain ⟨h1, h2⟩ := LawfulRegion.push_inv h h' v i hi hp
  exact ⟨h', i, hp, by rw [hx]; exact congrArg some hs, h1, h2⟩

theorem refused_u8 (h : HuffU8) (hi : Inv h) (v : List UInt8) (hna : ¬ Accepts h v) : push h v = none :=
  LawfulRegion.push_refuses h v hi hna

/-- **C02** for `Huff.Container`: a valid index (every issued index is) reads the same after any
history of successful pushes -/
theorem frame (h h' : Container) (ops : List (Op (List Nat))) (j : Nat × Nat) (hi : Inv h) (hv : Valid h j)
    (hnc : C02.noClear ops) (hrun : run h ops = some h') : Valid h' j ∧ index h' j = index h j :=
  C02.frame_history h h' ops j hi hv hnc hrun

/-- **C02** for `HuffmanContainer<u8>` -/
theorem frame_u8 (h h' : HuffU8) (ops : List (Op (List UInt8))) (j : Nat × Nat) (hi : Inv h) (hv : Valid h j)
    (hnc : C02.noClear ops) (hrun : run h ops = some h') : Valid h' j ∧ index h' j = index h j :=
  C02.frame_history h h' ops j hi hv hnc hrun

theorem run_inv (h h' : Container) (ops : List (Op (List Nat))) (hi : Inv h) (hrun : run h ops = some h') : Inv h' :=
  FC.run_inv h h' ops hi hrun

/-- **C08**: a cleared Huffman container is the default (raw, empty) one -/
theorem clear_default (h : Container) : clear h = (Region.default : Container) := rfl
theorem clear_default_u8 (h : HuffU8) : clear h = (Region.default : HuffU8) := rfl

theorem dense (h h' : Container) (v : List Nat) (i : Nat × Nat) (hi : Inv h) (hp : push h v = some (h', i)) :
    i = (DenseRegion.cursor h, DenseRegion.cursor h') := LawfulDense.push_dense h h' v i hi hp

theorem raw_runPushes (items : List (List Nat)) (h : Container) (hraw : h.coded = none) :
    ∃ h', C08.runPushes h items = some h' ∧ h'.coded = none := by
  induction items generalizing h with
  | nil => exact ⟨h, rfl, hraw⟩
  | cons item rest ih =>
    obtain ⟨h1, hp, hraw1, -⟩ := raw_mode h item hraw
    obtain ⟨h', hr, hraw'⟩ := ih h1 hraw1
    exact ⟨h', runPushes_cons_eq_some.mpr ⟨h1, _, hp, hr⟩, hraw'⟩

theorem raw_mode_all (items : List (List Nat)) (h : Container) (hraw : h.coded = none) :
    ∃ h' idxs, (items.foldl (fun (acc : Option (Container × List (Nat × Nat))) item =>
        acc.bind fun (h, is) => (Container.push h item).map fun (h', i) => (h', is ++ [i])) (some (h, []))) = some (h', idxs) ∧
      h'.coded = none ∧ idxs.map (Container.index h') = items.map some := by
  obtain ⟨h', hr, hraw'⟩ := raw_runPushes items h hraw
  refine ⟨h', C08.trace h items, ?_, hraw', runPushes_reads (fun _ _ e => e) (Container.inv_raw hraw) hr⟩
  rw [show Container.push = push from rfl, foldl_push_eq, hr]
  rfl

theorem roundtrip_coded_all (c : Code) (hc : EncOK c) (ht : TableOK c) (items : List (List Nat))
    (h : Container) (bytes : List Nat) (bits : Nat) (hcoded : h.coded = some (c, bytes, bits)) (hwf : WFStore bytes bits)
    (h' : Container) (idxs : List (Nat × Nat))
    (hrun : (items.foldl (fun (acc : Option (Container × List (Nat × Nat))) item =>
        acc.bind fun (h, is) => (Container.push h item).map fun (h', i) => (h', is ++ [i])) (some (h, []))) = some (h', idxs)) :
    idxs.map (Container.index h') = items.map some := by
  rw [show Container.push = push from rfl, foldl_push_eq] at hrun
  obtain ⟨_, hr, ⟨⟩⟩ := Option.map_eq_some_iff.mp hrun
  exact runPushes_reads (fun _ _ e => e) ((Container.inv_coded hcoded).2 ⟨hc, ht, hwf⟩) hr

example (fs : FlatStack Huff.Container (Capd (VecIdx (Nat × Nat) 16))) (hr : Reachable fs) (v : List Nat)
    (ha : Accepts fs v) : ∃ fs' k, push fs v = some (fs', k) ∧ ∃ v', index fs' k = some v' ∧ v' = v :=
  C01.roundtrip fs hr v ha

theorem stats_valid (h : Container) (hb : Built h) : Huff.Valid h.stats := hb.stats_valid

theorem merged_stats_valid (srcs : List Container) (hb : ∀ s ∈ srcs, Built s) :
    Huff.Valid (srcs.foldl (fun acc h => mergeStats acc h.stats) []) :=
  Huff.merged_stats_valid srcs fun s hs => (hb s hs).stats_valid

theorem merge_inv (srcs : List Container)
    (hv : Huff.Valid (srcs.foldl (fun acc h => mergeStats acc h.stats) []))
    (hdepth : ∀ x ∈ (mergedCode srcs).encode, 1 ≤ x.2.1 ∧ x.2.1 ≤ 57) :
    Inv (Container.merge srcs) := Container.merge_inv srcs hv fun x hx => (hdepth x hx).2

theorem merge_inv_built (srcs : List Container) (hb : ∀ s ∈ srcs, Built s)
    (hdepth : ∀ x ∈ (mergedCode srcs).encode, 1 ≤ x.2.1 ∧ x.2.1 ≤ 57) :
    Inv (Container.merge srcs) := Container.merge_inv_reachable srcs hb fun x hx => (hdepth x hx).2

theorem merge_inv_u8 (rs : List HuffU8)
    (hv : Huff.Valid ((rs.map (·.c)).foldl (fun acc h => mergeStats acc h.stats) []))
    (hdepth : ∀ x ∈ (mergedCode (rs.map (·.c))).encode, 1 ≤ x.2.1 ∧ x.2.1 ≤ 57) :
    Inv (RegionAux.mergeRegions rs : HuffU8) := HuffU8.merge_inv rs hv fun x hx => (hdepth x hx).2

theorem built_inv (h : Container) (hb : BuiltOK h) : Inv h := hb.inv

theorem accepts_merged (srcs : List Container)
    (hv : Huff.Valid (srcs.foldl (fun acc h => mergeStats acc h.stats) [])) (v : List Nat) :
    Accepts (Container.merge srcs) v ↔
      ∀ s ∈ v, s ∈ (srcs.foldl (fun acc h => mergeStats acc h.stats) []).map Prod.fst := by
  rw [accepts_coded _ _ _ _ (merge_coded srcs)]
  exact forall_congr' fun s => imp_congr_right fun _ => lookup_some_iff _ hv s

/-- non-vacuity: merging a container that saw `[3, 1, 3, 2]` yields a container that satisfies the invariant
and accepts `[1, 2, 3, 3]` -/
example : ∃ h0 i0, Container.push Container.default [3, 1, 3, 2] = some (h0, i0) ∧
    Inv (Container.merge [h0]) ∧ Accepts (Container.merge [h0]) [1, 2, 3, 3] := by
  refine ⟨_, _, rfl, ?_, ?_⟩
  · apply merge_inv
    · exact ⟨by decide, by decide⟩
    · decide
  · rw [accepts_coded _ _ _ _ (merge_coded _)]; decide

end FC.C06
