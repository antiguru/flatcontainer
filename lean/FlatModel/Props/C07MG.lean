import FlatModel.Proofs.MisraGries
import FlatModel.Proofs.MGCap
import FlatModel.Props.C07
/-! C07, last sentence: "Byte strings that dominate the source regions' statistics are stored in one byte
each" — the Misra–Gries guarantee of the crate's `MisraGries::tidy`, with compaction.

The tuning constant. `MG.cap` is the capacity literal of `MisraGries::default()` (see the head of Proofs/MGCap.lean, also
for what looks at its value); `MG.k = MG.cap / 2` is what `tidy` keeps at most, and `K = MG.k + 1` is the denominator of
every bound below. In the crate as verified `MG.cap = 1024`, `MG.k = 512`, `K = 513`. The theorems here are instances of
those for a generic capacity (`mg_invariant_generic`, `mg_error_bound_generic`, `MG.runK_bound`); the side condition
`2 ≤ MG.cap` (`MG.two_le_cap`) is used in `summary_never_full` / `compaction_keeps_some` only.

Definitions (Proofs/MisraGries.lean): `trueCount ops b` (weight inserted for `b`), `total ops` (all weight
inserted), `est m b` (summed weight of `b` in the raw list of `m` = its count after `consolidate`),
`run ops` (fold of `MG.update` from the empty summary), `runG ops` (the same with a ghost error budget `D`:
each compaction that drops something adds `d = l[k].2 = sub + 1`, the most a single key can lose in it; `k = MG.k`).

What `tidy` achieves (and what it does not). A dropping compaction subtracts `sub = d - 1` from the `k`
largest counts but drops entries of count up to `d`: a key can lose `d` while only `(k+1)·d - k` weight is
guaranteed to disappear. The classical bound `trueCount - est ≤ total/(k+1)` is therefore FALSE
(`classical_bound_fails` on capacity 4; `attack_defeats_classical_bound` at every capacity `2·k`, `1 ≤ k ≤ 65535`: a key inserted with
weight `2·r` of `(r+1)·(k+1) + r` ends with estimate 0; `classical_bound_fails_1024` is `k = 512`, `r = 3`, and with
`r = 40` a key of weight 80 > 21073/513 = 41 is lost). What holds is
  `(k+1)·D + Σest + (raw length) ≤ total + (number of insertions)`      (`accounting`)
so that `trueCount - est ≤ (total + n)/(k+1)`, which is `≤ 2·total/(k+1)` when all weights are positive (`n ≤ total`),
and this is tight up to rounding (80 vs 81 in the stream above). The bound composes through `new_from` with
no additional loss (`mg_invariant_merge`): over all sources and the merge together the under-count is at most
`2·N/(k+1)`, `N` = number of non-empty strings pushed into the sources. -/
namespace FC.C07
open FC FC.Codec
-- `run` is the summary's run below, not the history runner `FC.run` that the enclosing namespace would find first
export FC.Codec (run)

theorem cap_is_source_fact : MG.cap = FC.Generated.mgCapacity ∧ MG.k = MG.cap / 2 := ⟨rfl, rfl⟩
theorem tidy_generic (m : MG) : m.tidy = m.tidyK MG.k := rfl
theorem update_generic (m : MG) (b : Bytes) (c : Nat) : m.update b c = m.updateK MG.cap b c := rfl
theorem run_generic (ops : List (Bytes × Nat)) : run ops = MG.runK MG.cap ops := rfl
/-- uses the side condition (`0 < MG.cap`): after every `update` of a run from the empty summary the raw list is strictly
shorter than `MG.cap`. (Read on the crate: a `Vec` created with that capacity has room for every `push`; the model does not
carry that `Vec`'s capacity, see the head of Proofs/MGCap.lean.) -/
theorem summary_never_full (ops : List (Bytes × Nat)) : (run ops).inner.length < MG.cap := run_length_lt_cap ops
/-- uses the side condition (`2 ≤ MG.cap`): a compaction keeps up to `MG.k ≥ 1` entries, and leaves room for at least
`MG.k` insertions before the next one -/
theorem compaction_keeps_some : 0 < MG.k ∧ 2 * MG.k ≤ MG.cap ∧ ∀ m : MG, m.tidy.inner.length ≤ MG.k :=
  ⟨MG.k_pos, MG.two_k_le_cap, fun m => MG.tidyK_length_le MG.k m⟩
theorem runG_fst (ops : List (Bytes × Nat)) : (runG ops).1 = run ops := Codec.runG_fst ops
theorem done_spec (m : MG) : (∀ b c, (b, c) ∈ m.done ↔ c = est m b ∧ c ≠ 0) ∧
    (m.done.Pairwise fun x y => x.1 ≠ y.1) ∧ (m.done.Pairwise fun x y => y.2 ≤ x.2) :=
  ⟨MG.mem_done_iff m, MG.done_nodup m, MG.done_sorted m⟩

theorem mg_invariant_generic (cap : Nat) (ops : List (Bytes × Nat)) :
    MGInv (cap / 2) ops (MG.runK cap ops) (MG.runGK cap ops).2 := MG.runGK_inv cap ops

theorem mg_error_bound_generic (cap : Nat) (ops : List (Bytes × Nat)) (b : Bytes) :
    cnt (MG.runK cap ops).inner b ≤ cnt ops b ∧
    cnt ops b - cnt (MG.runK cap ops).inner b ≤ (wsum ops + ops.length) / (cap / 2 + 1) := by
  refine ⟨(MG.runGK_inv cap ops).le b, ?_⟩
  have h := MG.runK_bound cap ops b
  rw [Nat.le_div_iff_mul_le (by omega), Nat.mul_comm, Nat.mul_sub]
  omega

theorem est_le_trueCount (ops : List (Bytes × Nat)) (b : Bytes) : est (run ops) b ≤ trueCount ops b :=
  (mg_invariant ops).le b

theorem trueCount_le_est_add_D (ops : List (Bytes × Nat)) (b : Bytes) :
    trueCount ops b ≤ est (run ops) b + (runG ops).2 :=
  (mg_invariant ops).ge b

/-- the accounting inequality; `wsum (run ops).inner` is the sum of all estimates -/
theorem accounting (ops : List (Bytes × Nat)) :
    (MG.k + 1) * (runG ops).2 + wsum (run ops).inner + (run ops).inner.length ≤ total ops + ops.length :=
  (mg_invariant ops).pot

theorem weight_le_total (ops : List (Bytes × Nat)) : wsum (run ops).inner ≤ total ops := (mg_invariant ops).wle

theorem mg_error_bound (ops : List (Bytes × Nat)) (b : Bytes) :
    trueCount ops b - est (run ops) b ≤ (total ops + ops.length) / (MG.k + 1) :=
  (mg_error_bound_generic MG.cap ops b).2

/-- the bound when every insertion has positive weight (as in `encode`, weight 1, and in `new_from`, where the
weights are the non-zero counts of `done` lists) -/
theorem mg_error_bound_pos (ops : List (Bytes × Nat)) (hpos : ∀ e ∈ ops, e.2 ≠ 0) (b : Bytes) :
    trueCount ops b - est (run ops) b ≤ 2 * total ops / (MG.k + 1) := by
  refine (mg_error_bound ops b).trans (Nat.div_le_div_right ?_)
  have := length_le_wsum hpos
  simp only [total] at *
  omega

theorem heavy_survives (ops : List (Bytes × Nat)) (b : Bytes)
    (h : (total ops + ops.length) / (MG.k + 1) < trueCount ops b) :
    (b, est (run ops) b) ∈ (run ops).done ∧ 0 < est (run ops) b ∧
    trueCount ops b ≤ est (run ops) b + (total ops + ops.length) / (MG.k + 1) := by
  have hb := mg_error_bound ops b
  have hpos : 0 < est (run ops) b := by omega
  exact ⟨(MG.mem_done_iff _ _ _).2 ⟨rfl, by omega⟩, hpos, by omega⟩

theorem heavy_survives_pos (ops : List (Bytes × Nat)) (hpos : ∀ e ∈ ops, e.2 ≠ 0) (b : Bytes)
    (h : 2 * total ops / (MG.k + 1) < trueCount ops b) :
    ∃ c, 0 < c ∧ (b, c) ∈ (run ops).done := by
  have hb := mg_error_bound_pos ops hpos b
  have hpos : 0 < est (run ops) b := by omega
  exact ⟨_, hpos, (MG.mem_done_iff _ _ _).2 ⟨rfl, by omega⟩⟩

/-! On capacity 4 (`k = 2`) the classical bound `total/(k+1)` already fails, and the proved bound
(`mg_error_bound_generic 4`) is tight-ish. -/

/-- the adversarial stream (capacity 4): `a₀` is a reservoir, `a₁` is topped up every round, `b` arrives with
weight 2 every round and is dropped every round -/
def attack4 : List (Bytes × Nat) :=
  [([0], 5), ([1], 1), ([9], 2), ([1], 1), ([9], 2), ([1], 1), ([9], 2), ([1], 1)]

/-- `b = [9]` has weight 6 of 15, more than `15/3 = 5`, and is absent from the summary;
the proved bound `(15 + 8)/3 = 7` is not far off -/
theorem classical_bound_fails :
    trueCount attack4 [9] = 6 ∧ total attack4 = 15 ∧ est (MG.runK 4 attack4) [9] = 0 ∧
    total attack4 / (4 / 2 + 1) < trueCount attack4 [9] - est (MG.runK 4 attack4) [9] ∧
    (MG.runGK 4 attack4).2 = 6 ∧ (total attack4 + attack4.length) / (4 / 2 + 1) = 7 := by
  decide

/-! The same attack at any capacity `2·k`, `k ≤ 65535`, by argument. Before a round the summary holds `a₀ ↦ c ≥ 2` and the
other `k - 1` keys with count 1. The `k` insertions of the round fill the raw list exactly; the compaction finds the victim
at position `k` with count 2, so `sub = 1`: the victim is dropped, every topped-up key is back at 1, the reservoir `a₀`
one lower (`attack_round`). -/

/-- the `i`-th key, two bytes big-endian: ascending in `i` for `i < 65536` (`attackKey_lt`) -/
def attackKey (i : Nat) : Bytes := [UInt8.ofNat (i / 256), UInt8.ofNat (i % 256)]
/-- the victim: sorts after every `attackKey` -/
def attackVictim : Bytes := [255, 255]
/-- the stream for capacity `2·k`: `a₀ = attackKey 0` with a reservoir of `r + 2` and `a₁ … a_{k-1}` with weight 1 (half the
capacity); then `r` rounds of `k` insertions, each the victim with weight 2 and a top-up of `a₁ … a_{k-1}` by 1 -/
def attack (k r : Nat) : List (Bytes × Nat) :=
  (attackKey 0, r + 2) :: ((List.range (k - 1)).map fun i => (attackKey (i + 1), 1)) ++
  (List.replicate r ((attackVictim, 2) :: ((List.range (k - 1)).map fun i => (attackKey (i + 1), 1)))).flatten

def attackOn (a₀ v : Bytes) (ks : List Bytes) (r : Nat) : List (Bytes × Nat) :=
  (a₀, r + 2) :: ks.map (·, 1) ++ (List.replicate r ((v, 2) :: ks.map (·, 1))).flatten

theorem attack_eq_attackOn (k r : Nat) :
    attack k r = attackOn (attackKey 0) attackVictim ((List.range (k - 1)).map fun i => attackKey (i + 1)) r := by
  simp only [attack, attackOn, List.map_map, Function.comp_def]

section Round
variable {a₀ v : Bytes} {ks : List Bytes} (hs : (a₀ :: ks ++ [v]).Pairwise fun x y => bytesLt x y = true)
include hs

theorem attack_round {c : Nat} (hc : 2 ≤ c) :
    MG.runFromK (2 * (ks.length + 1)) ⟨(a₀, c) :: ks.map (·, 1)⟩ ((v, 2) :: ks.map (·, 1)) =
      ⟨(a₀, c - 1) :: ks.map (·, 1)⟩ := by
  have h2 : ∀ e ∈ ks.map (·, 2) ++ [(v, 2)], e.2 = 2 := by
    simp only [List.mem_append, List.mem_map, List.mem_singleton]
    rintro _ (⟨_, _, rfl⟩ | rfl) <;> rfl
  have hrank : ranked (((a₀, c) :: ks.map (·, 1)) ++ (v, 2) :: ks.map (·, 1)) =
      ((a₀, c) :: ks.map (·, 2)) ++ [(v, 2)] := by
    refine ranked_eq_of (keysAsc_iff.2 ?_) (List.pairwise_cons.2 ⟨fun e he => ?_,
      List.pairwise_of_forall_mem_list fun e he e' he' => ?_⟩) (List.forall_mem_cons.2 ⟨?_, fun e he => ?_⟩) fun b => ?_
    · simpa [List.map_map, Function.comp_def] using hs
    · rw [h2 e he]; exact hc
    · rw [h2 e he, h2 e' he']
    · exact Nat.ne_of_gt (by omega : 0 < c)
    · rw [h2 e he]; decide
    · simp only [List.cons_append, cnt_cons, cnt_append, cnt_map_const, cnt_nil]
      omega
  rw [MG.runFromK_of_eq (List.cons_ne_nil _ _) (by simp; omega), Nat.mul_div_cancel_left _ (by omega : 0 < 2),
    (MG.tidyK_of_ranked hrank (by simp)).1, stripZ_eq_self]
  · simp [subAll, Function.comp_def]
  · simp only [subAll, List.map_cons, List.map_map, List.mem_cons, List.mem_map]
    rintro _ (rfl | ⟨_, _, rfl⟩) <;> dsimp only [Function.comp] <;> omega

theorem attack_absorbed (r : Nat) :
    MG.runK (2 * (ks.length + 1)) (attackOn a₀ v ks r) = ⟨(a₀, 2) :: ks.map (·, 1)⟩ := by
  have rounds : ∀ r, MG.runFromK (2 * (ks.length + 1)) ⟨(a₀, 2 + r) :: ks.map (·, 1)⟩
      (List.replicate r ((v, 2) :: ks.map (·, 1))).flatten = ⟨(a₀, 2) :: ks.map (·, 1)⟩ := by
    intro r
    induction r with
    | zero => rfl
    | succ r ih =>
      rw [List.replicate_succ, List.flatten_cons, MG.runFromK_append, attack_round hs (by omega)]
      exact ih
  rw [attackOn, MG.runK_eq_runFromK, MG.runFromK_append,
    MG.runFromK_of_lt ((a₀, r + 2) :: ks.map (·, 1)) ⟨[]⟩ (by simp), List.nil_append, Nat.add_comm r 2]
  exact rounds r

theorem ne_victim {x : Bytes} (hx : x ∈ a₀ :: ks) : x ≠ v := fun e => by
  have := (List.pairwise_append.1 hs).2.2 x hx v (List.mem_singleton.2 rfl)
  rw [e, bytesLt_irrefl] at this
  cases this

theorem attack_victim_absent (r : Nat) : est (MG.runK (2 * (ks.length + 1)) (attackOn a₀ v ks r)) v = 0 := by
  rw [attack_absorbed hs r]
  refine cnt_eq_zero_of_not_mem fun x hx => ne_victim hs ?_
  simpa using List.mem_map_of_mem (f := Prod.fst) hx

theorem attack_weights (r : Nat) : trueCount (attackOn a₀ v ks r) v = 2 * r ∧
    total (attackOn a₀ v ks r) = (r + 1) * (ks.length + 2) + r ∧
    (attackOn a₀ v ks r).length = (r + 1) * (ks.length + 1) := by
  have h1 : a₀ ≠ v := ne_victim hs (List.mem_cons_self ..)
  have h2 : ks.count v = 0 := List.count_eq_zero.2 fun h => ne_victim hs (List.mem_cons_of_mem _ h) rfl
  refine ⟨?_, ?_, ?_⟩
  · simp only [trueCount, attackOn, cnt_append, cnt_cons, cnt_map_const, cnt_flatten, List.map_replicate,
      List.sum_replicate_nat, if_neg h1, if_true, h2]
    omega
  · simp only [total, attackOn, wsum_append, wsum_cons, wsum_map_const, wsum_flatten, List.map_replicate,
      List.sum_replicate_nat]
    ring
  · simp only [attackOn, List.length_append, List.length_cons, List.length_map, List.length_flatten,
      List.map_replicate, List.sum_replicate_nat]
    ring
end Round

theorem attackKey_lt {i j : Nat} (hij : i < j) (hj : j < 65536) : bytesLt (attackKey i) (attackKey j) = true := by
  simp only [attackKey, bytesLt, Bool.or_false, Bool.and_false, Bool.or_eq_true, Bool.and_eq_true, decide_eq_true_eq,
    beq_iff_eq, UInt8.lt_iff_toNat_lt, ← UInt8.toNat_inj, UInt8.toNat_ofNat']
  omega

theorem attackKeys_sorted {n : Nat} (hn : n < 65535) :
    (attackKey 0 :: (List.range n).map (fun i => attackKey (i + 1)) ++ [attackVictim]).Pairwise
      fun x y => bytesLt x y = true := by
  have e : attackKey 0 :: (List.range n).map (fun i => attackKey (i + 1)) ++ [attackVictim] =
      (List.range (n + 1) ++ [65535]).map attackKey := by
    rw [List.range_succ_eq_map, List.map_append, List.map_cons, List.map_map]; rfl
  rw [e]
  refine List.pairwise_map.2 (List.pairwise_append.2 ⟨?_, List.pairwise_singleton _ _, fun i hi j hj => ?_⟩)
  · exact List.pairwise_lt_range.imp_of_mem fun _ hj h => attackKey_lt h (by have := List.mem_range.1 hj; omega)
  · rw [List.mem_singleton.1 hj]; exact attackKey_lt (by have := List.mem_range.1 hi; omega) (by omega)

/-- For every number of keys `k ≤ 65535` and every number of rounds `r`: at capacity `2·k` the victim is inserted with
weight `2·r` out of `(r+1)·(k+1) + r` and ends with estimate 0. The classical bound `total/(k+1)` is `r + 1` for
`r ≤ k`, so it fails from the second round on. -/
theorem attack_defeats_classical_bound {k : Nat} (hk : 1 ≤ k) (hk' : k ≤ 65535) (r : Nat) :
    est (MG.runK (2 * k) (attack k r)) attackVictim = 0 ∧ trueCount (attack k r) attackVictim = 2 * r ∧
    total (attack k r) = (r + 1) * (k + 1) + r ∧ (attack k r).length = (r + 1) * k := by
  obtain ⟨n, rfl⟩ : ∃ n, k = n + 1 := ⟨k - 1, by omega⟩
  have hs := attackKeys_sorted (by omega : n < 65535)
  have h := And.intro (attack_victim_absent hs r) (attack_weights hs r)
  rw [List.length_map, List.length_range] at h
  rwa [attack_eq_attackOn, Nat.add_sub_cancel]

/-- 2048 insertions of total weight 2055: the victim was inserted with weight 6 > 2055/513 = 4 and is absent
from the summary. (With 40 rounds: weight 80 of 21073, 21073/513 = 41, estimate 0; the proved bound
`(total + n)/513` gives 81.) -/
theorem classical_bound_fails_1024 :
    est (MG.runK 1024 (attack 512 3)) attackVictim = 0 ∧ trueCount (attack 512 3) attackVictim = 6 ∧
    total (attack 512 3) / 513 = 4 ∧ (attack 512 3).length = 2048 := by
  obtain ⟨h1, h2, h3, h4⟩ := attack_defeats_classical_bound (k := 512) (by decide) (by decide) 3
  exact ⟨h1, h2, by rw [h3], h4⟩

def srcOf (p : Dict × List Bytes) : Dict := p.2.foldl Dict.observe p.1
def occurrences (hs : List (Dict × List Bytes)) (b : Bytes) : Nat := (hs.map fun p => p.2.count b).sum
def pushes (hs : List (Dict × List Bytes)) : Nat := (hs.map fun p => (p.2.filter (· ≠ [])).length).sum

theorem srcOf_mg (p : Dict × List Bytes) (h0 : p.1.mg = ⟨[]⟩) : (srcOf p).mg = run (pushOps p.2) :=
  Dict.observe_foldl_mg_run p.2 p.1 h0

theorem mergedMG_of_histories (hs : List (Dict × List Bytes)) (h0 : ∀ p ∈ hs, p.1.mg = ⟨[]⟩) :
    mergedMG (hs.map srcOf) = run ((hs.map fun p => pushOps p.2).map fun o => (run o).done).flatten := by
  rw [mergedMG_eq_run, List.map_map, List.map_map]
  congr 2
  apply List.map_congr_left
  intro p hp
  simp only [Function.comp_apply, srcOf_mg p (h0 p hp)]

theorem histories_flatten (hs : List (Dict × List Bytes)) {b : Bytes} (hb : b ≠ []) :
    cnt (hs.map fun p => pushOps p.2).flatten b = occurrences hs b ∧
    wsum (hs.map fun p => pushOps p.2).flatten = pushes hs ∧
    (hs.map fun p => pushOps p.2).flatten.length = pushes hs := by
  unfold occurrences pushes
  induction hs with
  | nil => exact ⟨rfl, rfl, rfl⟩
  | cons p hs ih =>
    have e3 : (pushOps p.2).length = (p.2.filter (· ≠ [])).length := by simp [pushOps]
    simp only [List.map_cons, List.flatten_cons, List.sum_cons, cnt_append, wsum_append, List.length_append,
      pushOps_cnt p.2 hb, pushOps_wsum, e3, ih, and_self]

/-- the composed guarantee, for sources that started with empty statistics (`h0`): over the sources' runs AND the merge in
`new_from`, a non-empty string is under-counted by at most `2·N/(MG.k + 1)` in total (`N` = non-empty pushes into all
sources); it is never over-counted -/
theorem merged_estimate (hs : List (Dict × List Bytes)) (h0 : ∀ p ∈ hs, p.1.mg = ⟨[]⟩) (b : Bytes) (hb : b ≠ []) :
    est (mergedMG (hs.map srcOf)) b ≤ occurrences hs b ∧
    (MG.k + 1) * occurrences hs b ≤ (MG.k + 1) * est (mergedMG (hs.map srcOf)) b + 2 * pushes hs ∧
    wsum (mergedMG (hs.map srcOf)).done ≤ pushes hs := by
  obtain ⟨hle, hge, hpot, hwle⟩ := mg_invariant_merge (hs.map fun p => pushOps p.2)
  obtain ⟨s1, s2, s3⟩ := histories_flatten hs hb
  rw [mergedMG_of_histories hs h0, MG.done_wsum]
  rw [s2, s3] at hpot
  rw [s2] at hwle
  have h1 := hle b
  have h2 := Nat.mul_le_mul_left (MG.k + 1) (hge b)
  rw [s1] at h1 h2
  rw [Nat.mul_add] at h2
  exact ⟨h1, by simp only [est]; omega, hwle⟩

theorem dominant_in_summary (hs : List (Dict × List Bytes)) (h0 : ∀ p ∈ hs, p.1.mg = ⟨[]⟩) (b : Bytes) (hb : b ≠ [])
    (hdom : 2 * pushes hs < (MG.k + 1) * occurrences hs b) :
    ∃ c, 0 < c ∧ (b, c) ∈ (mergedMG (hs.map srcOf)).done ∧
      (MG.k + 1) * occurrences hs b ≤ (MG.k + 1) * c + 2 * pushes hs := by
  obtain ⟨_, h2, _⟩ := merged_estimate hs h0 b hb
  have hpos : 0 < est (mergedMG (hs.map srcOf)) b :=
    Nat.pos_of_ne_zero fun h => by rw [h, Nat.mul_zero] at h2; omega
  exact ⟨est (mergedMG (hs.map srcOf)) b, hpos, (MG.mem_done_iff _ _ _).2 ⟨rfl, by omega⟩, h2⟩

theorem push_hit_one_byte (d : Dict) (b : Bytes) (t : Nat) (hl : d.lookup b = some t) (inner : Bytes) :
    ∃ r' i, Region.push (⟨inner, d⟩ : Codec.Region) b = some (r', i) ∧
      i.2 - i.1 = 1 ∧ r'.inner = inner ++ [UInt8.ofNat t] :=
  ⟨_, _, Codec.Region.push_hit hl inner, by simp, rfl⟩

theorem ranked_heavy_hitter_one_byte (srcs : List Dict) (b : Bytes) (c : Nat)
    (hrank : (b, c) ∈ (mergedMG srcs).done.take (freeTags srcs)) :
    ∃ t, (Dict.newFrom srcs).lookup b = some t ∧
      ∀ (inner : Bytes), ∃ r' i, Region.push (⟨inner, Dict.newFrom srcs⟩ : Codec.Region) b = some (r', i) ∧
        i.2 - i.1 = 1 ∧ r'.inner = inner ++ [UInt8.ofNat t] := by
  have hl := Dict.newFrom_take_tagged srcs (b, c) hrank
  generalize Dict.newFrom srcs = d at hl ⊢
  obtain ⟨t, hlt⟩ := Option.isSome_iff_exists.1 hl
  exact ⟨t, hlt, push_hit_one_byte d b t hlt⟩

/-- C07, last sentence. Sources that started with empty statistics and saw the pushes `p.2`; `N` non-empty
pushes in all, `C` of them the non-empty string `b`, `F` tags not in use as a first byte, `K = MG.k + 1`
(`MG.cap / 2 + 1`: 513 in the crate as verified). If
`K·N < (F+1)·(K·C - 2·N)` — i.e. `C/N > 2/K + 1/(F+1)` — then the merged dictionary maps `b` to a
one-byte tag, every push of `b` into the merged region is accepted and stores exactly one byte.
(`C/N > 2/K` alone puts `b` in the merged heavy-hitter list, `dominant_in_summary`; the `1/(F+1)` is what it
takes to be among the first `F` of a list of total weight `≤ N`.) -/
theorem dominant_strings_tagged (hs : List (Dict × List Bytes)) (h0 : ∀ p ∈ hs, p.1.mg = ⟨[]⟩)
    (b : Bytes) (hb : b ≠ [])
    (hdom : (MG.k + 1) * pushes hs <
      (freeTags (hs.map srcOf) + 1) * ((MG.k + 1) * occurrences hs b - 2 * pushes hs)) :
    ∃ t, (Dict.newFrom (hs.map srcOf)).lookup b = some t ∧
      ∀ (inner : Bytes), ∃ r' i, Region.push (⟨inner, Dict.newFrom (hs.map srcOf)⟩ : Codec.Region) b = some (r', i) ∧
        i.2 - i.1 = 1 ∧ r'.inner = inner ++ [UInt8.ofNat t] := by
  obtain ⟨_, h2, h3⟩ := merged_estimate hs h0 b hb
  generalize hF : freeTags (hs.map srcOf) = F at hdom
  generalize hM : mergedMG (hs.map srcOf) = M at h2 h3
  generalize MG.k + 1 = K at hdom h2
  have hle : (F + 1) * (K * occurrences hs b - 2 * pushes hs) ≤ (F + 1) * (K * est M b) :=
    Nat.mul_le_mul_left _ (by omega)
  have hlt : K * pushes hs < K * ((F + 1) * est M b) := by
    have : (F + 1) * (K * est M b) = K * ((F + 1) * est M b) := by ring
    omega
  have hlt' : pushes hs < (F + 1) * est M b := Nat.lt_of_mul_lt_mul_left hlt
  have hne : est M b ≠ 0 := by
    intro h; rw [h] at hlt'; simp at hlt'
  have hmem : (b, est M b) ∈ M.done := (MG.mem_done_iff _ _ _).2 ⟨rfl, hne⟩
  have hrank : (b, est M b) ∈ M.done.take F :=
    mem_take_of_heavy (MG.done_sorted M) hmem (Nat.lt_of_le_of_lt h3 hlt')
  rw [← hM, ← hF] at hrank
  exact ranked_heavy_hitter_one_byte _ b _ hrank

/-- the real capacity (evaluated: any `MG.cap ≥ 4`), a tiny run: "ab","c","ab" -/
example : (run [([97, 98], 1), ([99], 1), ([97, 98], 1)]).done = [([97, 98], 2), ([99], 1)] ∧
    (runG [([97, 98], 1), ([99], 1), ([97, 98], 1)]).2 = 0 := by
  decide

/-- capacity 4: a run with two dropping compactions; the invariant's three parts, evaluated -/
example : let ops : List (Bytes × Nat) := [([1], 3), ([2], 2), ([3], 2), ([4], 1), ([3], 1), ([5], 1), ([6], 1)]
    (MG.runGK 4 ops).1.inner = [([1], 2), ([2], 1), ([6], 1)] ∧ (MG.runGK 4 ops).2 = 3 ∧
    cnt ops [3] = 3 ∧ cnt (MG.runGK 4 ops).1.inner [3] = 0 ∧
    cnt ops [2] = 2 ∧ cnt (MG.runGK 4 ops).1.inner [2] = 1 ∧
    3 * (MG.runGK 4 ops).2 + wsum (MG.runGK 4 ops).1.inner + (MG.runGK 4 ops).1.inner.length ≤ wsum ops + ops.length := by
  decide

/-- the hypotheses of `dominant_strings_tagged` are satisfiable: one fresh source that saw "ab","c","ab" -/
example : let hs : List (Dict × List Bytes) := [(Dict.default, [[97, 98], [99], [97, 98]])]
    (∀ p ∈ hs, p.1.mg = ⟨[]⟩) ∧ pushes hs = 3 ∧ occurrences hs [97, 98] = 2 ∧ freeTags (hs.map srcOf) = 254 ∧
    (MG.k + 1) * pushes hs < (freeTags (hs.map srcOf) + 1) * ((MG.k + 1) * occurrences hs [97, 98] - 2 * pushes hs) ∧
    (Dict.newFrom (hs.map srcOf)).lookup [97, 98] = some 0 := by
  refine ⟨fun p hp => ?_, ?_⟩
  · simp only [List.mem_singleton] at hp
    subst hp; rfl
  · set_option maxRecDepth 100000 in decide

end FC.C07
