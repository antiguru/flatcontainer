import FlatModel.Props.C09
import FlatModel.Proofs.Serde
/-! C16: serialisation round trip. Deserialising a serialised region yields exactly the value that
`clone` yields in the model — nothing is skipped (remembered indices, stride state, spill lists,
offsets), capacities are exact — and that value continues like the original. -/
namespace FC.C16
open Region

section
variable {R V I : Type} [Region R V I] [RegionAux R] [Ser R]

/-- **C16**: `deserialize(serialize(r))` succeeds and is, field by field, `r.clone()` -/
theorem de_ser [SerClone R] (r : R) : Ser.de (Ser.ser r) = some (RegionAux.clone r) :=
  SerClone.de_ser r

theorem continuation_sim [LawfulAux R] [SerClone R] (r : R) (hi : Region.Inv r) :
    ∃ r', Ser.de (Ser.ser r) = some r' ∧ Sim r' r ∧ Region.Inv r' :=
  ⟨RegionAux.clone r, SerClone.de_ser r, LawfulAux.clone_sim r hi⟩

/-- **C16**: the deserialised value reads identically at every valid index and answers every further
push sequence identically (same returned indices, same refusals, same reads afterwards) -/
theorem continuation [LawfulRegion R] [LawfulAux R] [SerClone R] (r : R) (hi : Region.Inv r) :
    ∃ r', Ser.de (Ser.ser r) = some r' ∧ ObsEq r' r :=
  ⟨RegionAux.clone r, SerClone.de_ser r, sim_observe (LawfulAux.clone_sim r hi) hi⟩

/-- `continuation` in every state reachable by pushes and clears from the default region -/
theorem continuation_reachable [LawfulRegion R] [LawfulAux R] [SerClone R] (r : R) (hr : Reachable r) :
    ∃ r', Ser.de (Ser.ser r) = some r' ∧ ObsEq r' r :=
  continuation r (reachable_inv r hr)

/-- `continuation` in every state of `Reach` (creation, merge, push, clear, reservations, clone, clone_from),
for region types that also have a `LawfulMerge` instance -/
theorem continuation_reach [LawfulRegion R] [LawfulAux R] [LawfulMerge R] [SerClone R] (r : R) (hr : Reach r) :
    ∃ r', Ser.de (Ser.ser r) = some r' ∧ ObsEq r' r :=
  continuation r (reach_inv r hr)

theorem de_ser_twice [SerClone R] (r r' : R) (h : Ser.de (Ser.ser r) = some r') :
    Ser.de (Ser.ser r') = some (RegionAux.clone (RegionAux.clone r)) := by
  rw [de_ser r] at h; cases h; exact de_ser _
end

/-- element types and capacity-free index containers come back unchanged -/
theorem de_ser_elem {α : Type} [Ser α] [LawfulSer α] (a : α) : Ser.de (Ser.ser a) = some a :=
  LawfulSer.de_ser a

/-- a `Vec` comes back with its contents and an exact allocation -/
theorem de_ser_vec {α : Type} [Ser α] [LawfulSer α] (v : MVec α) :
    Ser.de (Ser.ser v) = some (⟨v.data, v.data.length⟩ : MVec α) :=
  mvec_de_ser v

theorem de_ser_idx {O T : Type} [IdxCont O T] [IdxAux O] [Ser O] [SerCloneIdx O] (c : O) :
    Ser.de (Ser.ser c) = some (IdxAux.clone c) :=
  SerCloneIdx.de_ser c

/-! ### nothing is skipped -/

theorem collapse_last_preserved {R V I : Type} [Region R V I] [HasEqv V] [RegionAux R] [IndexSize I] [Ser R] [Ser I]
    [SerClone R] [LawfulSer I] (r : CollapseSequence R I) :
    ∃ r' : CollapseSequence R I, Ser.de (Ser.ser r) = some r' ∧ r'.last = r.last ∧ r'.inner = RegionAux.clone r.inner :=
  ⟨_, de_ser r, rfl, rfl⟩

theorem consec_bookkeeping_preserved {R V O : Type} [Region R V (Nat × Nat)] [DenseRegion R] [IdxCont O Nat]
    [RegionAux R] [IdxAux O] [LawfulIdxAux O] [Ser R] [Ser O] [SerClone R] [SerCloneIdx O] (r : ConsecPairs R O) :
    ∃ r' : ConsecPairs R O, Ser.de (Ser.ser r) = some r' ∧ r'.last = r.last ∧ r'.indices = IdxAux.clone r.indices ∧
      IdxCont.iter r'.indices = IdxCont.iter r.indices ∧ r'.inner = RegionAux.clone r.inner :=
  ⟨_, de_ser r, rfl, rfl, LawfulIdxAux.clone_iter r.indices, rfl⟩

theorem optimized_state_preserved (c : Capd IndexOptimized) :
    ∃ c' : Capd IndexOptimized, Ser.de (Ser.ser c) = some c' ∧ c'.a = c.a ∧
      c'.caps = [c.a.spilled.smol.length, c.a.spilled.chonk.length] :=
  ⟨_, de_ser_idx c, rfl, rfl⟩

theorem list_state_preserved (c : Capd IndexList) :
    ∃ c' : Capd IndexList, Ser.de (Ser.ser c) = some c' ∧ c'.a = c.a ∧ c'.caps = [c.a.smol.length, c.a.chonk.length] :=
  ⟨_, de_ser_idx c, rfl, rfl⟩

theorem columns_preserved {R V I O : Type} [Region R V I] [IdxCont O Nat] [RegionAux R] [IdxAux O] [ElemSize I]
    [Ser R] [Ser I] [Ser O] [SerClone R] [LawfulSer I] [SerCloneIdx O] (r : ColumnsRegion R I O) :
    ∃ r' : ColumnsRegion R I O, Ser.de (Ser.ser r) = some r' ∧ r'.cols = r.cols.map RegionAux.clone ∧
      r'.indices.last = r.indices.last ∧ r'.indices.inner.slices.data = r.indices.inner.slices.data :=
  ⟨_, de_ser r, rfl, rfl, rfl⟩

theorem stack_preserved {R V I S : Type} [Region R V I] [IdxCont S I] [RegionAux R] [IdxAux S] [Ser R] [Ser S]
    [SerClone R] [SerCloneIdx S] (fs : FlatStack R S) :
    Ser.de (Ser.ser fs) = some (⟨IdxAux.clone fs.indices, RegionAux.clone fs.region⟩ : FlatStack R S) :=
  de_ser fs

/-! ### coverage: the awkward nestings resolve without hints -/
example : SerClone (ColumnsRegion (CollapseSequence (ConsecPairs (StringRegion (OwnedRegion UInt8)) (Capd IndexOptimized)) Nat)
    Nat (Capd IndexOptimized)) := inferInstance
example : SerClone (FlatStack (SliceRegion (ConsecPairs (StringRegion (OwnedRegion UInt8)) (Capd IndexOptimized)) (Capd IndexList))
    (Capd (VecIdx (Nat × Nat) 16))) := inferInstance
example : SerClone (TupleCons (OptionRegion (StringRegion (OwnedRegion UInt8))) (TupleCons (OwnedRegion Nat) TupleNil)) :=
  inferInstance
example : SerClone (ResultRegion (SliceRegion (MirrorRegion Nat) (Capd (VecIdx Nat 1))) (StringRegion (OwnedRegion UInt8))) :=
  inferInstance
example : SerClone (VecRegion (Nat × Nat)) := inferInstance
example : SerClone (CollapseSequence (MirrorRegion F64) F64) := inferInstance
example : SerClone (SliceRegion (SliceRegion (OwnedRegion UInt8) (Capd (VecIdx (Nat × Nat) 16))) (Capd (VecIdx (Nat × Nat) 16))) :=
  inferInstance
example : SerCloneIdx (Capd IndexOptimized) := inferInstance
example : SerCloneIdx (Capd IndexList) := inferInstance
example : SerCloneIdx (Capd (VecIdx (Nat × Nat) 16)) := inferInstance

/-! ### non-vacuity: a concrete region with a duplicate collapsed, stride state, a spilled offset and
slack capacity (16 for 9 bytes) round-trips to its exact-capacity clone -/
section Sample
private abbrev T := CollapseSequence (ConsecPairs (StringRegion (OwnedRegion UInt8)) (Capd IndexOptimized)) Nat

/-- "hi", "hi", "yo", "ab", "xyz" pushed into a default region -/
example : C08.runPushes (Region.default : T) [[104, 105], [104, 105], [121, 111], [97, 98], [120, 121, 122]] =
    some ⟨⟨⟨⟨⟨[104, 105, 121, 111, 97, 98, 120, 121, 122], 16⟩⟩⟩, ⟨⟨.striding 2 4, ⟨[9], []⟩⟩, [1, 0]⟩, 9⟩, some 3⟩ := by rfl

example : Ser.de (Ser.ser
      (⟨⟨⟨⟨⟨[104, 105, 121, 111, 97, 98, 120, 121, 122], 16⟩⟩⟩, ⟨⟨.striding 2 4, ⟨[9], []⟩⟩, [1, 0]⟩, 9⟩, some 3⟩ : T)) =
    some (⟨⟨⟨⟨⟨[104, 105, 121, 111, 97, 98, 120, 121, 122], 9⟩⟩⟩, ⟨⟨.striding 2 4, ⟨[9], []⟩⟩, [1, 0]⟩, 9⟩, some 3⟩ : T) := by rfl

/-- malformed input is refused, not misread: a `Saturated` stride with a missing field -/
example : Ser.de (α := Stride) (SVal.tupleVariant "Saturated" [SVal.nat 2, SVal.nat 4]) = none := by rfl
end Sample

end FC.C16
