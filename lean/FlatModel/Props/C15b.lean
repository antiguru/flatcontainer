import FlatModel.Proofs.Items2
import FlatModel.Props.C15
/-! C15, part 2: equality and ordering of the Huffman read items `Wrapped` (`PartialEq` / `PartialOrd` /
`Ord`, four match arms over raw × encoded) are those of the owned symbol lists, whichever
representation either side has and whichever container (raw, or coded with whatever code) issued it;
that order is a lawful total order. -/
namespace FC
open Region

namespace C15

/-- **C15** `a == b` is `==` of the decoded symbol lists — in all four arms: encoded/encoded (`Iterator::eq`
of two decoders, possibly over different codes), encoded/raw, raw/encoded, raw/raw (slice equality) -/
theorem wrapped_eq (a b : Wrapped) (xs ys : List Nat) (ha : a.decode = some xs) (hb : b.decode = some ys) :
    Wrapped.eq a b = some (listEq (· == ·) xs ys) := by
  cases a <;> cases b <;> simp only [Wrapped.decode, Option.some.injEq] at ha hb <;>
    simp only [Wrapped.eq, ha, hb, Wrapped.iterEqSyms_eq, Wrapped.sliceEq_eq]

/-- **C15** `a.partial_cmp(b)` / `a.cmp(b)` is the lexicographic order of the decoded symbol lists, in all
four arms -/
theorem wrapped_cmp (a b : Wrapped) (xs ys : List Nat) (ha : a.decode = some xs) (hb : b.decode = some ys) :
    Wrapped.cmp a b = some (lexCmp compare xs ys) := by
  cases a <;> cases b <;> simp only [Wrapped.decode, Option.some.injEq] at ha hb <;>
    simp only [Wrapped.cmp, ha, hb, Wrapped.iterCmpSyms_eq, Wrapped.sliceCmp_eq]

theorem wrapped_cmp_arms (c₁ c₂ : Huff.Code) (b₁ b₂ : List Nat) (lo₁ hi₁ lo₂ hi₂ : Nat) (xs ys : List Nat)
    (h1 : Huff.decodeRange c₁ b₁ lo₁ hi₁ = some xs) (h2 : Huff.decodeRange c₂ b₂ lo₂ hi₂ = some ys) :
    Wrapped.cmp (.encoded c₁ b₁ lo₁ hi₁) (.encoded c₂ b₂ lo₂ hi₂) = some (lexCmp compare xs ys) ∧
    Wrapped.cmp (.encoded c₁ b₁ lo₁ hi₁) (.raw ys) = some (lexCmp compare xs ys) ∧
    Wrapped.cmp (.raw xs) (.encoded c₂ b₂ lo₂ hi₂) = some (lexCmp compare xs ys) ∧
    Wrapped.cmp (.raw xs) (.raw ys) = some (lexCmp compare xs ys) ∧
    Wrapped.eq (.encoded c₁ b₁ lo₁ hi₁) (.encoded c₂ b₂ lo₂ hi₂) = some (listEq (· == ·) xs ys) ∧
    Wrapped.eq (.encoded c₁ b₁ lo₁ hi₁) (.raw ys) = some (listEq (· == ·) xs ys) ∧
    Wrapped.eq (.raw xs) (.encoded c₂ b₂ lo₂ hi₂) = some (listEq (· == ·) xs ys) ∧
    Wrapped.eq (.raw xs) (.raw ys) = some (listEq (· == ·) xs ys) :=
  ⟨wrapped_cmp _ _ xs ys h1 h2, wrapped_cmp _ _ xs ys h1 rfl, wrapped_cmp _ _ xs ys rfl h2,
    wrapped_cmp _ _ xs ys rfl rfl, wrapped_eq _ _ xs ys h1 h2, wrapped_eq _ _ xs ys h1 rfl,
    wrapped_eq _ _ xs ys rfl h2, wrapped_eq _ _ xs ys rfl rfl⟩

theorem wrapped_eq_cmp_indep (a a' b b' : Wrapped) (xs ys : List Nat) (ha : a.decode = some xs)
    (ha' : a'.decode = some xs) (hb : b.decode = some ys) (hb' : b'.decode = some ys) :
    Wrapped.eq a b = Wrapped.eq a' b' ∧ Wrapped.cmp a b = Wrapped.cmp a' b' := by
  rw [wrapped_eq a b xs ys ha hb, wrapped_eq a' b' xs ys ha' hb', wrapped_cmp a b xs ys ha hb,
    wrapped_cmp a' b' xs ys ha' hb']
  exact ⟨rfl, rfl⟩

theorem wrapped_cmp_borrowAs (a b : Wrapped) (xs ys : List Nat) (ha : a.intoOwned = some xs)
    (hb : b.decode = some ys) :
    Wrapped.cmp (Wrapped.borrowAs xs) b = Wrapped.cmp a b ∧ Wrapped.cmp b (Wrapped.borrowAs xs) = Wrapped.cmp b a ∧
    Wrapped.eq (Wrapped.borrowAs xs) b = Wrapped.eq a b ∧ Wrapped.eq b (Wrapped.borrowAs xs) = Wrapped.eq b a := by
  rw [Wrapped.intoOwned_eq_decode] at ha
  exact ⟨(wrapped_eq_cmp_indep _ a b b xs ys rfl ha hb hb).2, (wrapped_eq_cmp_indep b b _ a ys xs hb hb rfl ha).2,
    (wrapped_eq_cmp_indep _ a b b xs ys rfl ha hb hb).1, (wrapped_eq_cmp_indep b b _ a ys xs hb hb rfl ha).1⟩

/-- **C15** two valid items from any two consistent Huffman containers (`Inv`) — raw or coded, the same or different
codes — compare exactly like the owned values `index` returns; the comparison does not panic -/
theorem huffman_items_cmp (h₁ h₂ : Huff.Container) (i j : Nat × Nat) (hi₁ : Inv h₁) (hv₁ : Valid h₁ i)
    (hi₂ : Inv h₂) (hv₂ : Valid h₂ j) :
    ∃ xs ys, index h₁ i = some xs ∧ index h₂ j = some ys ∧
      Wrapped.eq (h₁.item i) (h₂.item j) = some (listEq (· == ·) xs ys) ∧
      Wrapped.cmp (h₁.item i) (h₂.item j) = some (lexCmp compare xs ys) := by
  obtain ⟨xs, hxs, ha⟩ := Huff.Container.item_decodes h₁ i hi₁ hv₁
  obtain ⟨ys, hys, hb⟩ := Huff.Container.item_decodes h₂ j hi₂ hv₂
  exact ⟨xs, ys, hxs, hys, wrapped_eq _ _ xs ys ha hb, wrapped_cmp _ _ xs ys ha hb⟩

theorem huffman_item_cmp_borrowed (h : Huff.Container) (i : Nat × Nat) (hi : Inv h) (hv : Valid h i)
    (ys : List Nat) :
    ∃ xs, index h i = some xs ∧
      Wrapped.eq (h.item i) (Wrapped.borrowAs ys) = some (listEq (· == ·) xs ys) ∧
      Wrapped.eq (Wrapped.borrowAs ys) (h.item i) = some (listEq (· == ·) ys xs) ∧
      Wrapped.cmp (h.item i) (Wrapped.borrowAs ys) = some (lexCmp compare xs ys) ∧
      Wrapped.cmp (Wrapped.borrowAs ys) (h.item i) = some (lexCmp compare ys xs) := by
  obtain ⟨xs, hxs, ha⟩ := Huff.Container.item_decodes h i hi hv
  exact ⟨xs, hxs, wrapped_eq _ _ xs ys ha rfl, wrapped_eq _ _ ys xs rfl ha, wrapped_cmp _ _ xs ys ha rfl,
    wrapped_cmp _ _ ys xs rfl ha⟩

/-- **C15** with C01: the same symbols pushed into any two consistent containers (`Inv`) that accept them yield equal items -/
theorem huffman_pushed_items_eq (h₁ h₂ : Huff.Container) (v : List Nat) (hi₁ : Inv h₁) (ha₁ : Accepts h₁ v)
    (hi₂ : Inv h₂) (ha₂ : Accepts h₂ v) :
    ∃ h₁' i h₂' j, push h₁ v = some (h₁', i) ∧ push h₂ v = some (h₂', j) ∧
      Wrapped.cmp (h₁'.item i) (h₂'.item j) = some .eq ∧ Wrapped.eq (h₁'.item i) (h₂'.item j) = some true := by
  obtain ⟨h₁', i, hp₁, -, -, ha⟩ := Huff.Container.item_of_push h₁ v hi₁ ha₁
  obtain ⟨h₂', j, hp₂, -, -, hb⟩ := Huff.Container.item_of_push h₂ v hi₂ ha₂
  refine ⟨h₁', i, h₂', j, hp₁, hp₂, ?_, ?_⟩
  · rw [wrapped_cmp _ _ v v ha hb, lexCmp_refl ItemsEx.natCmp_lawful]
  · rw [wrapped_eq _ _ v v ha hb, (listEq_iff_eq ItemsEx.natCmp_lawful (· == ·) (by intro x y; simp) v v).2 rfl]

/-- the order on owned symbol vectors (`Ord for Vec<B>` over `Ord for B`) is lawful … -/
theorem symsCmp_lawful : LawfulCmp (lexCmp (compare : Nat → Nat → Ordering)) :=
  lexCmp_lawful ItemsEx.natCmp_lawful

/-- … and so is the order on vectors of Huffman items (items nested in slices) -/
theorem symsCmp_lawful_nested : LawfulCmp (lexCmp (lexCmp (compare : Nat → Nat → Ordering))) :=
  lexCmp_lawful symsCmp_lawful

theorem wrapped_cmp_refl (a : Wrapped) (xs : List Nat) (ha : a.decode = some xs) : Wrapped.cmp a a = some .eq := by
  rw [wrapped_cmp a a xs xs ha ha, lexCmp_refl ItemsEx.natCmp_lawful]

theorem wrapped_cmp_eq_iff (a b : Wrapped) (xs ys : List Nat) (ha : a.decode = some xs) (hb : b.decode = some ys) :
    Wrapped.cmp a b = some .eq ↔ a.intoOwned = b.intoOwned := by
  rw [wrapped_cmp a b xs ys ha hb, Wrapped.intoOwned_eq_decode, Wrapped.intoOwned_eq_decode, ha, hb]
  simp only [Option.some.injEq]
  exact lexCmp_eq_iff ItemsEx.natCmp_lawful xs ys

theorem wrapped_cmp_antisymm (a b : Wrapped) (xs ys : List Nat) (ha : a.decode = some xs) (hb : b.decode = some ys) :
    Wrapped.cmp a b = some .lt ↔ Wrapped.cmp b a = some .gt := by
  rw [wrapped_cmp a b xs ys ha hb, wrapped_cmp b a ys xs hb ha]
  simp only [Option.some.injEq]
  exact lexCmp_antisymm ItemsEx.natCmp_lawful xs ys

theorem wrapped_cmp_swap (a b : Wrapped) (xs ys : List Nat) (ha : a.decode = some xs) (hb : b.decode = some ys) :
    Wrapped.cmp b a = (Wrapped.cmp a b).map Ordering.swap := by
  rw [wrapped_cmp a b xs ys ha hb, wrapped_cmp b a ys xs hb ha, Option.map_some,
    lexCmp_swap ItemsEx.natCmp_lawful xs ys]

theorem wrapped_cmp_trans (a b c : Wrapped) (xs ys zs : List Nat) (ha : a.decode = some xs)
    (hb : b.decode = some ys) (hc : c.decode = some zs)
    (h1 : Wrapped.cmp a b = some .lt) (h2 : Wrapped.cmp b c = some .lt) : Wrapped.cmp a c = some .lt := by
  rw [wrapped_cmp a b xs ys ha hb] at h1
  rw [wrapped_cmp b c ys zs hb hc] at h2
  rw [wrapped_cmp a c xs zs ha hc]
  simp only [Option.some.injEq] at h1 h2 ⊢
  exact lexCmp_trans ItemsEx.natCmp_lawful xs ys zs h1 h2

/-- **C15** `a == b` iff `a.cmp(b) == Equal` -/
theorem wrapped_eq_iff_cmp_eq (a b : Wrapped) (xs ys : List Nat) (ha : a.decode = some xs)
    (hb : b.decode = some ys) : Wrapped.eq a b = some true ↔ Wrapped.cmp a b = some .eq := by
  rw [wrapped_eq a b xs ys ha hb, wrapped_cmp a b xs ys ha hb]
  simp only [Option.some.injEq]
  exact listEq_iff_lexCmp_eq (· == ·) (by intro x y; simp) xs ys

/-! ### Satisfiability of the assumptions, and concrete instances -/

open ItemsEx2

/-- a raw container, a coded one, and one coded with a different code: consistent, with valid indices -/
example : Inv rawC ∧ Valid rawC (0, 3) ∧ Valid rawC (4, 6) ∧ Inv codedC ∧ Valid codedC (0, 2) ∧ Valid codedC (2, 6) ∧
    Inv codedD ∧ Valid codedD (0, 5) ∧ Valid codedD (5, 9) :=
  ⟨rawC_inv, rawC_valid _ (by decide), rawC_valid _ (by decide), codedC_inv, codedC_valid₁, codedC_valid₂,
    codedD_inv, codedD_valid₁, codedD_valid₂⟩

/-- `[2, 2]` is stored as symbols 4..6 of `rawC`, as bits 0..2 of `codedC` and as bits 5..9 of `codedD`;
`[1, 2, 2]` as symbols 0..3, bits 2..6 and bits 0..5. The items compare as the lists do. -/
example :
    Wrapped.eq (codedC.item (0, 2)) (rawC.item (4, 6)) = some true ∧
    Wrapped.cmp (codedC.item (0, 2)) (codedD.item (5, 9)) = some .eq ∧
    Wrapped.cmp (codedC.item (2, 6)) (codedD.item (5, 9)) = some .lt ∧
    Wrapped.cmp (codedC.item (0, 2)) (codedC.item (2, 6)) = some .gt ∧
    Wrapped.cmp (rawC.item (0, 3)) (codedD.item (0, 5)) = some .eq ∧
    Wrapped.cmp (codedD.item (0, 5)) (Wrapped.borrowAs [1, 2, 3]) = some .lt := by
  have c1 : (codedC.item (0, 2)).decode = some [2, 2] := by
    rw [Huff.Container.item_decode _ _ codedC_valid₁]; exact codedC_index₁
  have c2 : (codedC.item (2, 6)).decode = some [1, 2, 2] := by
    rw [Huff.Container.item_decode _ _ codedC_valid₂]; exact codedC_index₂
  have d1 : (codedD.item (0, 5)).decode = some [1, 2, 2] := by
    rw [Huff.Container.item_decode _ _ codedD_valid₁]; exact codedD_index₁
  have d2 : (codedD.item (5, 9)).decode = some [2, 2] := by
    rw [Huff.Container.item_decode _ _ codedD_valid₂]; exact codedD_index₂
  have r1 : (rawC.item (4, 6)).decode = some [2, 2] := rfl
  have r2 : (rawC.item (0, 3)).decode = some [1, 2, 2] := rfl
  rw [wrapped_eq _ _ _ _ c1 r1, wrapped_cmp _ _ _ _ c1 d2, wrapped_cmp _ _ _ _ c2 d2, wrapped_cmp _ _ _ _ c1 c2,
    wrapped_cmp _ _ _ _ r2 d1, wrapped_cmp _ _ _ _ d1 (rfl : (Wrapped.borrowAs [1, 2, 3]).decode = some [1, 2, 3])]
  decide

/-- the raw/raw arm uses slice comparison (common prefix, then lengths): a proper prefix is smaller -/
example : Wrapped.cmp (.raw [1, 2]) (.raw [1, 2, 0]) = some .lt ∧ Wrapped.cmp (.raw [2]) (.raw [1, 2, 0]) = some .gt ∧
    Wrapped.eq (.raw [1, 2]) (.raw [1, 2, 0]) = some false ∧ Wrapped.eq (.raw [1, 2]) (.raw [1, 2]) = some true := by
  decide

end C15
end FC
