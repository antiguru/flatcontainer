import FlatModel.Proofs.Index
/-! C05: index containers store arbitrary usize sequences faithfully and never panic. -/
namespace FC.Stride

/-- The documented pattern, read off the state. -/
def Continues (s : Stride) (x : Nat) : Prop :=
  match s with
  | empty => x = 0
  | zero => True
  | striding st c => (x = st * c ∧ st * c < USIZE) ∨ x = st * (c - 1)
  | saturated st c _ => x = st * (c - 1)

end FC.Stride

namespace FC.C05
open FC

/-- every lawful container is the list of pushed values: after any pushes from `default`, iteration, `index`, `len`, `is_empty` agree with it -/
theorem faithful {C : Type} [IdxCont C Nat] [L : LawfulIdxCont C] (xs : List Nat) :
    let c := xs.foldl IdxCont.push (IdxCont.default : C)
    IdxCont.iter c = xs ∧ (∀ i, IdxCont.index c i = xs[i]?) ∧ IdxCont.len c = xs.length ∧
      IdxCont.isEmpty c = xs.isEmpty := by
  obtain ⟨hinv, hiter⟩ := L.foldl_push IdxCont.default xs L.inv_default
  rw [L.iter_default, List.nil_append] at hiter
  exact ⟨hiter, fun i => by rw [L.index_eq _ i hinv, hiter], by rw [L.len_eq _ hinv, hiter],
    by rw [L.isEmpty_eq _ hinv, hiter]⟩

/-- `Stride::push` accepts exactly the continuation of the documented pattern … -/
theorem stride_accepts_iff (s : Stride) (x : Nat) : (s.push x).2 = true ↔ s.Continues x := by
  cases s with
  | empty => simp only [Stride.push, Stride.Continues]; split <;> simp_all
  | zero => simp [Stride.push, Stride.Continues]
  | striding st c =>
    simp only [Stride.push, Stride.Continues, Stride.checkedMul_eq_some]
    split
    · simp_all
    · split <;> simp_all
  | saturated st c r => simp only [Stride.push, Stride.Continues]; split <;> simp_all
/-- … and leaves the state untouched when it rejects -/
theorem stride_reject_unchanged (s : Stride) (x : Nat) (h : (s.push x).2 = false) : (s.push x).1 = s := by
  cases s with
  | empty => simp only [Stride.push] at h ⊢; split <;> simp_all
  | zero => simp [Stride.push] at h
  | striding st c =>
    simp only [Stride.push] at h ⊢
    split
    · simp_all
    · split <;> simp_all
  | saturated st c r => simp only [Stride.push] at h ⊢; split <;> simp_all

/-- the hypotheses are satisfiable: a container that crossed stride → u32 → u64 -/
example : let c := [0, 2, 4, 4, 5, 4294967296, 1].foldl IdxCont.push (IdxCont.default : IndexOptimized)
    IdxCont.iter c = [0, 2, 4, 4, 5, 4294967296, 1] ∧ c.spilled.smol = [5] ∧ c.spilled.chonk = [4294967296, 1] := by
  decide

/-! The tree as it was before the repair (`*stride * *count`): the property is false. -/
/-- overflow-checked build: pushing 0, 2^63, 5 panics -/
example : Stride.pushLegacy .checked (.striding (2^63) 2) 5 = none := by decide
/-- wrapping build: 0 is accepted as "2·s" after 0, 2^63 although it does not continue the pattern -/
example : Stride.pushLegacy .wrapping (.striding (2^63) 2) 0 = some (.striding (2^63) 3, true) := by decide
example : ¬ (Stride.striding (2^63) 2).Continues 0 := by simp [Stride.Continues, USIZE]

/-- **append-only at the container level (C02's mechanisms)**: a push never changes what an earlier
position reads — not when `IndexOptimized` leaves the stride and starts spilling, not when
`IndexList` switches from its `u32` list to its `u64` list -/
theorem push_keeps_prefix {C : Type} [IdxCont C Nat] [L : LawfulIdxCont C] (c : C) (x : Nat) (hi : IdxCont.Inv c)
    (i : Nat) (h : i < IdxCont.len c) : IdxCont.index (IdxCont.push c x) i = IdxCont.index c i := by
  rw [L.index_eq _ i (L.inv_push c x hi), L.index_eq _ i hi, L.iter_push c x hi]
  rw [L.len_eq c hi] at h
  exact List.getElem?_append_left h

theorem indexOptimized_spill_keeps_prefix (o : IndexOptimized) (x : Nat) (hi : o.strided.Inv) (i : Nat) (h : i < o.len) :
    (o.push x).index i = o.index i :=
  push_keeps_prefix (C := IndexOptimized) o x hi i h

theorem indexList_chonk_keeps_smol (l : IndexList) (x : Nat) (i : Nat) (h : i < l.len) :
    (l.push x).index i = l.index i :=
  push_keeps_prefix (C := IndexList) l x trivial i h
end FC.C05
