import FlatModel.Props.C19
import FlatModel.Props.C12
/-! C19 for FlatStacks over dense-index regions. -/

namespace FC.C19
open FC Region

section
variable {R V : Type} [Region R V Nat] [LawfulRegion R]

/-- a region hands out dense indices when its k-th successful push (since creation) returns k -/
def DenseFrom (count : R → Nat) : Prop :=
  count (Region.default : R) = 0 ∧
  ∀ (r r' : R) (v : V) (k : Nat), Inv r → push r v = some (r', k) → k = count r ∧ count r' = count r + 1

/-- **C19 (FlatStack)**: a `FlatStack<R, IndexOptimized>` over a region with dense indices (C12:
consecutive-pair and columns regions) keeps its own indices in the stride, i.e. spends zero heap
bytes on them, for any number of copies (below 2^64) -/
theorem flatstack_dense_free (count : R → Nat) (hd : DenseFrom (R := R) count)
    (vs : List V) (fs : FlatStack R IndexOptimized)
    (h : C08.runPushes (Region.default : FlatStack R IndexOptimized) vs = some fs) (hn : vs.length < USIZE) :
    fs.indices = pushAll ⟨.empty, ⟨[], []⟩⟩ (List.range vs.length) ∧ IdxCont.usedBytes fs.indices = [0, 0] := by
  -- invariant of the run: the stack's own indices are `0, 1, …, count - 1`
  have key : ∀ (vs : List V) (fs0 : FlatStack R IndexOptimized), Inv fs0.region →
      fs0.indices = pushAll ⟨.empty, ⟨[], []⟩⟩ (List.range (count fs0.region)) → C08.runPushes fs0 vs = some fs →
      fs.indices = pushAll ⟨.empty, ⟨[], []⟩⟩ (List.range (count fs0.region + vs.length)) := by
    intro vs
    induction vs with
    | nil =>
      intro fs0 _ hidx h
      cases h
      exact hidx
    | cons v vs ih =>
      intro fs0 hi hidx h
      obtain ⟨fs1, k, hp, h⟩ := runPushes_cons_eq_some.mp h
      obtain ⟨⟨r1, i⟩, hr, ⟨⟩⟩ := Option.map_eq_some_iff.mp ((FlatStack.push_eq fs0 v).symm.trans hp)
      obtain ⟨hk, hc1⟩ := hd.2 fs0.region r1 v i hi hr
      have := ih ⟨IdxCont.push fs0.indices i, r1⟩ (LawfulRegion.push_inv fs0.region r1 v i hi hr).1
        (by show IndexOptimized.push fs0.indices i = _; rw [hidx, hk, hc1, pushAll_range_succ]) h
      rwa [hc1, Nat.add_assoc, Nat.add_comm 1] at this
  have h0 : count (Region.default : FlatStack R IndexOptimized).region = 0 := hd.1
  have hidx := key vs (Region.default : FlatStack R IndexOptimized) LawfulRegion.inv_default (by rw [h0]; rfl) h
  rw [h0, Nat.zero_add] at hidx
  exact ⟨hidx, by rw [hidx]; exact dense_free vs.length hn⟩
end

section
variable {R V O : Type} [Region R V (Nat × Nat)] [DenseRegion R] [IdxCont O Nat]
  [LawfulRegion R] [LawfulDense R] [LawfulIdxCont O]
theorem consec_denseFrom : DenseFrom (R := ConsecPairs R O) C12.count :=
  ⟨C12.count_default, C12.kth⟩

/-- a `FlatStack<ConsecutiveIndexPairs<R, O>, IndexOptimized>` built from `default` by fewer than 2^64
copies spends no heap on its own indices -/
theorem consec_stack_free (vs : List V) (fs : FlatStack (ConsecPairs R O) IndexOptimized)
    (h : C08.runPushes (Region.default : FlatStack (ConsecPairs R O) IndexOptimized) vs = some fs)
    (hn : vs.length < USIZE) : IdxCont.usedBytes fs.indices = [0, 0] :=
  (flatstack_dense_free C12.count consec_denseFrom vs fs h hn).2
end

section
variable {R V I O : Type} [Region R V I] [IdxCont O Nat] [LawfulRegion R] [LawfulIdxCont O]
theorem columns_denseFrom : DenseFrom (R := ColumnsRegion R I O) C12.rows :=
  ⟨C12.rows_default, C12.columns_kth⟩

/-- a `FlatStack<ColumnsRegion<R, O>, IndexOptimized>` built from `default` by fewer than 2^64 copies
spends no heap on its own indices -/
theorem columns_stack_free (rows : List (List V)) (fs : FlatStack (ColumnsRegion R I O) IndexOptimized)
    (h : C08.runPushes (Region.default : FlatStack (ColumnsRegion R I O) IndexOptimized) rows = some fs)
    (hn : rows.length < USIZE) : IdxCont.usedBytes fs.indices = [0, 0] :=
  (flatstack_dense_free C12.rows columns_denseFrom rows fs h hn).2
end
end FC.C19
