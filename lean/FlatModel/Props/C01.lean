import FlatModel.Props.Catalogue
import FlatModel.Proofs.History
/-! C01 (round trip), C02 (append-only), C08 (clear is fresh): the history-level statements. -/
namespace FC
open Region LawfulRegion

section
variable {R V I : Type} [Region R V I] [LawfulRegion R]

def Reachable (r : R) : Prop := ∃ ops : List (Op V), run (default : R) ops = some r

theorem run_inv (r r' : R) (ops : List (Op V)) (hi : Inv r) (h : run r ops = some r') : Inv r' := by
  induction ops generalizing r with
  | nil =>
    cases h
    exact hi
  | cons op ops ih =>
    cases op with
    | push v =>
      obtain ⟨r1, i, hp, h⟩ := run_push_eq_some.mp h
      exact ih r1 (push_post hp hi).inv h
    | clear => exact ih (clear r) (clear_inv r hi) h

theorem reachable_inv (r : R) (h : Reachable r) : Inv r :=
  h.elim fun ops h => run_inv (Region.default : R) r ops inv_default h

namespace C01
/-- **C01**: in every state of a lawful region reached from `default` by pushes and clears
(`Reachable`), an accepted push succeeds and the returned index reads back an item `same` as the
pushed value. (Which compositions are lawful is not in this statement: `Generated/Covered.lean`,
`Props/Universe.lean`.) -/
theorem roundtrip (r : R) (hr : Reachable r) (v : V) (ha : Accepts r v) :
    ∃ r' i, push r v = some (r', i) ∧ ∃ v', index r' i = some v' ∧ same (R := R) v' v :=
  LawfulRegion.push_ok r v (reachable_inv r hr) ha

/-- what is not accepted is refused, never stored as something else -/
theorem refused (r : R) (hr : Reachable r) (v : V) (hna : ¬ Accepts r v) : push r v = none :=
  LawfulRegion.push_refuses r v (reachable_inv r hr) hna
end C01

namespace C02
/-- **C02**: an issued (valid) index keeps reading the same item through any history of pushes. -/
theorem frame_history (r r' : R) (ops : List (Op V)) (j : I) (hi : Inv r) (hv : Valid r j)
    (hnc : noClear ops) (h : run r ops = some r') : Valid r' j ∧ index r' j = index r j := by
  induction ops generalizing r with
  | nil =>
    cases h
    exact ⟨hv, rfl⟩
  | cons op ops ih =>
    cases op with
    | push v =>
      obtain ⟨r1, i, hp, h⟩ := run_push_eq_some.mp h
      obtain ⟨hi1, -, -, hext⟩ := push_post hp hi
      exact ⟨(ih r1 hi1 (hext j hv).1 hnc h).1, (ih r1 hi1 (hext j hv).1 hnc h).2.trans (hext j hv).2⟩
    | clear => exact hnc.elim

/-- every index a push returns is valid, hence covered by `frame_history` -/
theorem issued_valid (r r' : R) (v : V) (i : I) (hi : Inv r) (hp : push r v = some (r', i)) : Valid r' i :=
  (LawfulRegion.push_inv r r' v i hi hp).2
end C02

/-- `a` and `b` are observationally the same region: equal reads at every valid index now, and after
any sequence of further pushes equal returned indices, equal refusals, and equal reads again -/
def ObsEq (a b : R) : Prop :=
    (∀ i, (Valid a i ↔ Valid b i) ∧ (Valid a i → index a i = index b i)) ∧
    ∀ vs : List V, C08.trace a vs = C08.trace b vs ∧
      ((C08.runPushes a vs = none ∧ C08.runPushes b vs = none) ∨
        ∃ a' b', C08.runPushes a vs = some a' ∧ C08.runPushes b vs = some b' ∧
          ∀ i, (Valid a' i ↔ Valid b' i) ∧ (Valid a' i → index a' i = index b' i))

/-- `Sim` is a bisimulation, so `Sim`-equivalent states are observationally equal. The hypothesis
has the shape in which `LawfulAux` and `LawfulMerge` deliver it. -/
theorem sim_observe {a b : R} (h : Sim a b ∧ Inv a) (hb : Inv b) : ObsEq a b := by
  refine ⟨fun i => LawfulRegion.sim_index a b i h.1 h.2 hb, fun vs => ?_⟩
  obtain ⟨t, rest⟩ := C08.sim_pushes a b vs h.1 h.2 hb
  exact ⟨t, rest.imp id fun ⟨a', b', h1, h2, h3, h4, h5⟩ =>
    ⟨a', b', h1, h2, fun i => LawfulRegion.sim_index a' b' i h3 h4 h5⟩⟩
namespace C08
/-- **C08**: for `r` reached from `default` by pushes and clears (`Reachable`), any sequence of
pushes on `clear r` returns the same indices as on `default`; either both runs are refused or both end,
in states that have the same valid indices and read the same at each of them. -/
theorem after_clear (r : R) (hr : Reachable r) (vs : List V) :
    trace (clear r) vs = trace (default : R) vs ∧
    ((runPushes (clear r) vs = none ∧ runPushes (default : R) vs = none) ∨
      ∃ a' b', runPushes (clear r) vs = some a' ∧ runPushes (default : R) vs = some b' ∧
        ∀ i, (Valid a' i ↔ Valid b' i) ∧ (Valid a' i → index a' i = index b' i)) := by
  have hi := reachable_inv r hr
  exact (sim_observe ⟨clear_sim r hi, clear_inv r hi⟩ inv_default).2 vs
end C08

end
end FC
