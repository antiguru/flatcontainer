import FlatModel.Proofs.Items
/-! C15: equality and ordering of read items (`PartialEq`/`Ord for ReadSlice`, i.e. `Iterator::eq` /
`Iterator::cmp` over the item iterators) are those of the owned values, whatever the representation
and whichever region backs the item; and that order is a lawful total order when the element order is. -/
namespace FC
open Region

namespace C15

section
variable {R V I O : Type} [Region R V I] [IdxCont O I]

/-- **C15** `a == b` is `==` of the owned values. `a`, `b` range over both representations, so this is
all four pairs (backed/backed — also over different regions —, backed/borrowed, borrowed/backed,
borrowed/borrowed). -/
theorem readSlice_eq (eqV : V → V → Bool) (a b : ReadSlice R O V) (xs ys : List V)
    (ha : a.iter = some xs) (hb : b.iter = some ys) :
    ReadSlice.eq eqV a b = some (listEq eqV xs ys) := by
  rw [ReadSlice.eq, (ReadSlice.iter_eq_some_iff a xs).mp ha, (ReadSlice.iter_eq_some_iff b ys).mp hb,
    iterEq_map_some]

/-- **C15** `a.cmp(b)` is the lexicographic order of the owned values -/
theorem readSlice_cmp (cmpV : V → V → Ordering) (a b : ReadSlice R O V) (xs ys : List V)
    (ha : a.iter = some xs) (hb : b.iter = some ys) :
    ReadSlice.cmp cmpV a b = some (lexCmp cmpV xs ys) := by
  rw [ReadSlice.cmp, (ReadSlice.iter_eq_some_iff a xs).mp ha, (ReadSlice.iter_eq_some_iff b ys).mp hb,
    iterCmp_map_some]

theorem readSlice_eq_cmp_indep (eqV : V → V → Bool) (cmpV : V → V → Ordering) (a a' b b' : ReadSlice R O V)
    (xs ys : List V) (ha : a.iter = some xs) (ha' : a'.iter = some xs) (hb : b.iter = some ys)
    (hb' : b'.iter = some ys) :
    ReadSlice.eq eqV a b = ReadSlice.eq eqV a' b' ∧ ReadSlice.cmp cmpV a b = ReadSlice.cmp cmpV a' b' := by
  rw [readSlice_eq eqV a b xs ys ha hb, readSlice_eq eqV a' b' xs ys ha' hb',
    readSlice_cmp cmpV a b xs ys ha hb, readSlice_cmp cmpV a' b' xs ys ha' hb']
  exact ⟨rfl, rfl⟩

theorem readSlice_cmp_borrowAs (cmpV : V → V → Ordering) (a b : ReadSlice R O V) (xs ys : List V)
    (ha : a.intoOwned = some xs) (hb : b.iter = some ys) :
    ReadSlice.cmp cmpV (ReadSlice.borrowed xs) b = ReadSlice.cmp cmpV a b ∧
    ReadSlice.cmp cmpV b (ReadSlice.borrowed xs) = ReadSlice.cmp cmpV b a := by
  rw [readSlice_cmp cmpV a b xs ys ha hb, readSlice_cmp cmpV b a ys xs hb ha,
    readSlice_cmp cmpV (ReadSlice.borrowed xs) b xs ys rfl hb,
    readSlice_cmp cmpV b (ReadSlice.borrowed xs) ys xs hb rfl]
  exact ⟨rfl, rfl⟩

variable [LawfulRegion R] [LawfulIdxCont O]

theorem readSlice_eq_cmp_wf (eqV : V → V → Bool) (cmpV : V → V → Ordering) (a b : ReadSlice R O V)
    (ha : a.WF) (hb : b.WF) :
    ∃ xs ys, a.intoOwned = some xs ∧ b.intoOwned = some ys ∧
      ReadSlice.eq eqV a b = some (listEq eqV xs ys) ∧ ReadSlice.cmp cmpV a b = some (lexCmp cmpV xs ys) := by
  obtain ⟨xs, hxs⟩ := ReadSlice.wf_iter a ha
  obtain ⟨ys, hys⟩ := ReadSlice.wf_iter b hb
  exact ⟨xs, ys, hxs, hys, readSlice_eq eqV a b xs ys hxs hys, readSlice_cmp cmpV a b xs ys hxs hys⟩

theorem readSlice_cmp_backed_backed (eqV : V → V → Bool) (cmpV : V → V → Ordering) (r₁ r₂ : SliceRegion R O)
    (i j : Nat × Nat) (h1 : Inv r₁) (hi : Valid r₁ i) (h2 : Inv r₂) (hj : Valid r₂ j) :
    ∃ xs ys, index r₁ i = some xs ∧ index r₂ j = some ys ∧
      ReadSlice.eq eqV (ReadSlice.backed r₁ i.1 i.2) (ReadSlice.backed r₂ j.1 j.2) = some (listEq eqV xs ys) ∧
      ReadSlice.cmp cmpV (ReadSlice.backed r₁ i.1 i.2) (ReadSlice.backed r₂ j.1 j.2) = some (lexCmp cmpV xs ys) := by
  obtain ⟨xs, ha, hxs⟩ := ReadSlice.iter_backed r₁ i h1 hi
  obtain ⟨ys, hb, hys⟩ := ReadSlice.iter_backed r₂ j h2 hj
  exact ⟨xs, ys, hxs, hys, readSlice_eq eqV _ _ xs ys ha hb, readSlice_cmp cmpV _ _ xs ys ha hb⟩

theorem readSlice_cmp_backed_borrowed (eqV : V → V → Bool) (cmpV : V → V → Ordering) (r : SliceRegion R O)
    (i : Nat × Nat) (h1 : Inv r) (hi : Valid r i) (ys : List V) :
    ∃ xs, index r i = some xs ∧
      ReadSlice.eq eqV (ReadSlice.backed r i.1 i.2) (ReadSlice.borrowed ys) = some (listEq eqV xs ys) ∧
      ReadSlice.eq eqV (ReadSlice.borrowed ys) (ReadSlice.backed r i.1 i.2) = some (listEq eqV ys xs) ∧
      ReadSlice.cmp cmpV (ReadSlice.backed r i.1 i.2) (ReadSlice.borrowed ys) = some (lexCmp cmpV xs ys) ∧
      ReadSlice.cmp cmpV (ReadSlice.borrowed ys) (ReadSlice.backed r i.1 i.2) = some (lexCmp cmpV ys xs) := by
  obtain ⟨xs, ha, hxs⟩ := ReadSlice.iter_backed r i h1 hi
  have hb : (ReadSlice.borrowed ys : ReadSlice R O V).iter = some ys := rfl
  exact ⟨xs, hxs, readSlice_eq eqV _ _ xs ys ha hb, readSlice_eq eqV _ _ ys xs hb ha,
    readSlice_cmp cmpV _ _ xs ys ha hb, readSlice_cmp cmpV _ _ ys xs hb ha⟩

end

section Order
variable {V : Type} {cmpV : V → V → Ordering}

/-- the lifted order is again lawful (so the laws iterate through nested slices) -/
theorem lexCmp_lawful (L : LawfulCmp cmpV) : LawfulCmp (lexCmp cmpV) := L.lex

/-- **C15** reflexive -/
theorem lexCmp_refl (L : LawfulCmp cmpV) (xs : List V) : lexCmp cmpV xs xs = .eq := L.lex.refl xs

/-- **C15** duality: `xs < ys ↔ ys > xs`; together with `lexCmp_eq_iff`, `cmp ys xs` is the
reverse of `cmp xs ys` -/
theorem lexCmp_antisymm (L : LawfulCmp cmpV) (xs ys : List V) :
    lexCmp cmpV xs ys = .lt ↔ lexCmp cmpV ys xs = .gt := L.lex.antisymm xs ys

theorem lexCmp_swap (L : LawfulCmp cmpV) (xs ys : List V) :
    lexCmp cmpV ys xs = (lexCmp cmpV xs ys).swap := L.lex.swap xs ys

/-- **C15** transitive -/
theorem lexCmp_trans (L : LawfulCmp cmpV) (xs ys zs : List V)
    (h1 : lexCmp cmpV xs ys = .lt) (h2 : lexCmp cmpV ys zs = .lt) : lexCmp cmpV xs zs = .lt :=
  L.lex.trans_lt xs ys zs h1 h2

theorem lexCmp_trans_gt (L : LawfulCmp cmpV) (xs ys zs : List V)
    (h1 : lexCmp cmpV xs ys = .gt) (h2 : lexCmp cmpV ys zs = .gt) : lexCmp cmpV xs zs = .gt :=
  have := L.lex.transCmp
  Std.TransCmp.gt_trans h1 h2

/-- **C15** `cmp == Equal` exactly on equal values -/
theorem lexCmp_eq_iff (L : LawfulCmp cmpV) (xs ys : List V) : lexCmp cmpV xs ys = .eq ↔ xs = ys :=
  ⟨L.lex.eq_imp xs ys, fun h => h ▸ L.lex.refl xs⟩

/-- **C15** `==` agrees with `cmp == Equal` when it does on elements -/
theorem listEq_iff_lexCmp_eq (eqV : V → V → Bool) (h : ∀ x y, eqV x y = true ↔ cmpV x y = .eq)
    (xs ys : List V) : listEq eqV xs ys = true ↔ lexCmp cmpV xs ys = .eq := by
  induction xs generalizing ys with
  | nil => cases ys <;> simp [listEq, lexCmp]
  | cons x xs ih =>
    cases ys with
    | nil => simp [listEq, lexCmp]
    | cons y ys =>
      simp only [listEq, lexCmp, Bool.and_eq_true, h, ih]
      cases hc : cmpV x y <;> simp

theorem listEq_iff_eq (L : LawfulCmp cmpV) (eqV : V → V → Bool) (h : ∀ x y, eqV x y = true ↔ cmpV x y = .eq)
    (xs ys : List V) : listEq eqV xs ys = true ↔ xs = ys :=
  (listEq_iff_lexCmp_eq eqV h xs ys).trans (lexCmp_eq_iff L xs ys)

end Order

section Items
variable {R V I O : Type} [Region R V I] [IdxCont O I] {cmpV : V → V → Ordering}

theorem readSlice_cmp_refl (L : LawfulCmp cmpV) (a : ReadSlice R O V) (xs : List V) (ha : a.iter = some xs) :
    ReadSlice.cmp cmpV a a = some .eq := by
  rw [readSlice_cmp cmpV a a xs xs ha ha, lexCmp_refl L]

theorem readSlice_cmp_eq_iff (L : LawfulCmp cmpV) (a b : ReadSlice R O V) (xs ys : List V)
    (ha : a.iter = some xs) (hb : b.iter = some ys) :
    ReadSlice.cmp cmpV a b = some .eq ↔ a.intoOwned = b.intoOwned := by
  rw [readSlice_cmp cmpV a b xs ys ha hb, ReadSlice.intoOwned, ReadSlice.intoOwned, ha, hb]
  simp only [Option.some.injEq]
  exact lexCmp_eq_iff L xs ys

theorem readSlice_cmp_antisymm (L : LawfulCmp cmpV) (a b : ReadSlice R O V) (xs ys : List V)
    (ha : a.iter = some xs) (hb : b.iter = some ys) :
    ReadSlice.cmp cmpV a b = some .lt ↔ ReadSlice.cmp cmpV b a = some .gt := by
  rw [readSlice_cmp cmpV a b xs ys ha hb, readSlice_cmp cmpV b a ys xs hb ha]
  simp only [Option.some.injEq]
  exact lexCmp_antisymm L xs ys

theorem readSlice_cmp_trans (L : LawfulCmp cmpV) (a b c : ReadSlice R O V) (xs ys zs : List V)
    (ha : a.iter = some xs) (hb : b.iter = some ys) (hc : c.iter = some zs)
    (h1 : ReadSlice.cmp cmpV a b = some .lt) (h2 : ReadSlice.cmp cmpV b c = some .lt) :
    ReadSlice.cmp cmpV a c = some .lt := by
  rw [readSlice_cmp cmpV a b xs ys ha hb] at h1
  rw [readSlice_cmp cmpV b c ys zs hb hc] at h2
  rw [readSlice_cmp cmpV a c xs zs ha hc]
  simp only [Option.some.injEq] at h1 h2 ⊢
  exact lexCmp_trans L xs ys zs h1 h2

/-- **C15** `a == b` iff `a.cmp(b) == Equal`, when it is so on elements -/
theorem readSlice_eq_iff_cmp_eq (eqV : V → V → Bool) (h : ∀ x y, eqV x y = true ↔ cmpV x y = .eq)
    (a b : ReadSlice R O V) (xs ys : List V) (ha : a.iter = some xs) (hb : b.iter = some ys) :
    ReadSlice.eq eqV a b = some true ↔ ReadSlice.cmp cmpV a b = some .eq := by
  rw [readSlice_eq eqV a b xs ys ha hb, readSlice_cmp cmpV a b xs ys ha hb]
  simp only [Option.some.injEq]
  exact listEq_iff_lexCmp_eq eqV h xs ys

end Items

/-! ### Satisfiability of the assumptions, and concrete instances -/

open ItemsEx

/-- `Ord for usize` is a `LawfulCmp` -/
example : LawfulCmp (compare : Nat → Nat → Ordering) := natCmp_lawful

example : ∀ x y : Nat, (x == y) = true ↔ compare x y = .eq := by intro x y; simp

example :
    ReadSlice.eq (· == ·) (ReadSlice.backed reg 0 2 : ReadSlice _ _ Nat) (ReadSlice.backed reg 3 5) = some true ∧
    ReadSlice.eq (· == ·) (ReadSlice.backed reg 0 2 : ReadSlice _ _ Nat) (ReadSlice.borrowed [1, 1]) = some true ∧
    ReadSlice.cmp compare (ReadSlice.borrowed [1, 1]) (ReadSlice.backed reg 3 5 : ReadSlice _ _ Nat) = some .eq ∧
    ReadSlice.cmp compare (ReadSlice.backed reg 0 2 : ReadSlice _ _ Nat) (ReadSlice.backed reg 0 3) = some .lt ∧
    ReadSlice.cmp compare (ReadSlice.backed reg 2 4 : ReadSlice _ _ Nat) (ReadSlice.backed reg 0 3) = some .gt := by
  decide

/-- the comparison is lazy: it stops at the first difference, so it can succeed on an ill-formed item
whose full iteration would panic — the theorems above assume `iter = some _` only to name the values -/
example :
    (ReadSlice.backed reg 0 9 : ReadSlice _ _ Nat).iter = none ∧
    ReadSlice.cmp compare (ReadSlice.backed reg 0 9 : ReadSlice _ _ Nat) (ReadSlice.borrowed [2]) = some .lt := by
  decide

end C15
end FC
