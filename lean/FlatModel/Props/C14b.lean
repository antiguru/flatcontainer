import FlatModel.Proofs.Items2
/-! C14, part 2: the `IntoOwned` laws of the composite read items — `Option<T>`, `Result<T, E>`, tuples,
slices of items — in compositional form (if the element operations satisfy the law, so does the
composite), their closure under nesting (`ItemLaws`), and the laws of the Huffman read item `Wrapped`
together with its connection to `HuffmanContainer::index`. -/
namespace FC
open Region

namespace C14

section Option
variable {X O : Type}

/-- **C14** `clone_onto` for options: whatever the target held — `Some` (the element is cloned onto the
existing one), `None` (a fresh `Some(into_owned)` is written) — it ends up equal to `into_owned`;
a `None` source overwrites any target with `None` -/
theorem option_cloneOnto_eq (intoOwned : X → O) (cloneOnto : X → O → O)
    (h : ∀ x t, cloneOnto x t = intoOwned x) :
    ∀ (x : Option X) (t : Option O),
      OptionItem.cloneOnto intoOwned cloneOnto x t = OptionItem.intoOwned intoOwned x :=
  OptionItem.cloneOnto_eq intoOwned cloneOnto h

theorem option_cloneOnto_arms (intoOwned : X → O) (cloneOnto : X → O → O) (x : X) (t : O) :
    OptionItem.cloneOnto intoOwned cloneOnto (some x) (some t) = some (cloneOnto x t) ∧
    OptionItem.cloneOnto intoOwned cloneOnto (some x) none = some (intoOwned x) ∧
    OptionItem.cloneOnto intoOwned cloneOnto none (some t) = none ∧
    OptionItem.cloneOnto intoOwned cloneOnto (none : Option X) none = none := ⟨rfl, rfl, rfl, rfl⟩

/-- **C14** `borrow_as(&owned).into_owned() == owned` -/
theorem option_borrow_roundtrip (intoOwned : X → O) (borrowAs : O → X) (h : ∀ o, intoOwned (borrowAs o) = o) :
    ∀ o : Option O, OptionItem.intoOwned intoOwned (OptionItem.borrowAs borrowAs o) = o :=
  OptionItem.intoOwned_borrowAs intoOwned borrowAs h

/-- **C14** `reborrow` is the identity when it is on elements -/
theorem option_reborrow_id (reborrow : X → X) (h : ∀ x, reborrow x = x) :
    ∀ x : Option X, OptionItem.reborrow reborrow x = x := OptionItem.reborrow_id reborrow h

end Option

section Result
variable {XT OT XE OE : Type}

/-- **C14** `clone_onto` for results, all four variant pairs (`Ok`/`Ok`, `Err`/`Err` clone element-wise;
`Ok`/`Err`, `Err`/`Ok` replace the target) -/
theorem result_cloneOnto_eq (intoOwnedT : XT → OT) (cloneOntoT : XT → OT → OT) (intoOwnedE : XE → OE)
    (cloneOntoE : XE → OE → OE) (hT : ∀ x t, cloneOntoT x t = intoOwnedT x)
    (hE : ∀ x t, cloneOntoE x t = intoOwnedE x) :
    ∀ (x : Except XE XT) (t : Except OE OT),
      ResultItem.cloneOnto intoOwnedT cloneOntoT intoOwnedE cloneOntoE x t =
        ResultItem.intoOwned intoOwnedT intoOwnedE x :=
  ResultItem.cloneOnto_eq intoOwnedT cloneOntoT intoOwnedE cloneOntoE hT hE

theorem result_cloneOnto_arms (intoOwnedT : XT → OT) (cloneOntoT : XT → OT → OT) (intoOwnedE : XE → OE)
    (cloneOntoE : XE → OE → OE) (x : XT) (e : XE) (t : OT) (u : OE) :
    ResultItem.cloneOnto intoOwnedT cloneOntoT intoOwnedE cloneOntoE (.ok x) (.ok t) = .ok (cloneOntoT x t) ∧
    ResultItem.cloneOnto intoOwnedT cloneOntoT intoOwnedE cloneOntoE (.error e) (.error u) = .error (cloneOntoE e u) ∧
    ResultItem.cloneOnto intoOwnedT cloneOntoT intoOwnedE cloneOntoE (.ok x) (.error u) = .ok (intoOwnedT x) ∧
    ResultItem.cloneOnto intoOwnedT cloneOntoT intoOwnedE cloneOntoE (.error e) (.ok t) = .error (intoOwnedE e) :=
  ⟨rfl, rfl, rfl, rfl⟩

theorem result_borrow_roundtrip (intoOwnedT : XT → OT) (borrowAsT : OT → XT) (intoOwnedE : XE → OE)
    (borrowAsE : OE → XE) (hT : ∀ o, intoOwnedT (borrowAsT o) = o) (hE : ∀ o, intoOwnedE (borrowAsE o) = o) :
    ∀ o : Except OE OT,
      ResultItem.intoOwned intoOwnedT intoOwnedE (ResultItem.borrowAs borrowAsT borrowAsE o) = o :=
  ResultItem.intoOwned_borrowAs intoOwnedT borrowAsT intoOwnedE borrowAsE hT hE

theorem result_reborrow_id (reborrowT : XT → XT) (reborrowE : XE → XE) (hT : ∀ x, reborrowT x = x)
    (hE : ∀ x, reborrowE x = x) : ∀ x : Except XE XT, ResultItem.reborrow reborrowT reborrowE x = x :=
  ResultItem.reborrow_id reborrowT reborrowE hT hE

end Result

section Tuple
variable {XA OA XB OB : Type}

/-- **C14** `clone_onto` for tuples is field-wise -/
theorem tuple_cloneOnto_eq (intoOwnedA : XA → OA) (cloneOntoA : XA → OA → OA) (intoOwnedB : XB → OB)
    (cloneOntoB : XB → OB → OB) (hA : ∀ x t, cloneOntoA x t = intoOwnedA x)
    (hB : ∀ x t, cloneOntoB x t = intoOwnedB x) :
    ∀ (x : XA × XB) (t : OA × OB),
      TupleItem.cloneOnto cloneOntoA cloneOntoB x t = TupleItem.intoOwned intoOwnedA intoOwnedB x :=
  TupleItem.cloneOnto_eq intoOwnedA cloneOntoA intoOwnedB cloneOntoB hA hB

theorem tuple_borrow_roundtrip (intoOwnedA : XA → OA) (borrowAsA : OA → XA) (intoOwnedB : XB → OB)
    (borrowAsB : OB → XB) (hA : ∀ o, intoOwnedA (borrowAsA o) = o) (hB : ∀ o, intoOwnedB (borrowAsB o) = o) :
    ∀ o : OA × OB, TupleItem.intoOwned intoOwnedA intoOwnedB (TupleItem.borrowAs borrowAsA borrowAsB o) = o :=
  TupleItem.intoOwned_borrowAs intoOwnedA borrowAsA intoOwnedB borrowAsB hA hB

theorem tuple_reborrow_id (reborrowA : XA → XA) (reborrowB : XB → XB) (hA : ∀ x, reborrowA x = x)
    (hB : ∀ x, reborrowB x = x) : ∀ x : XA × XB, TupleItem.reborrow reborrowA reborrowB x = x :=
  TupleItem.reborrow_id reborrowA reborrowB hA hB

end Tuple

section Slice
variable {X O : Type}

/-- **C14** `clone_onto` for slices whose elements are cloned with their own `clone_onto` onto the common
prefix: the target (shorter, equal, longer; any contents) ends up as the element-wise `into_owned` -/
theorem slice_cloneOnto_eq (intoOwned : X → O) (cloneOnto : X → O → O)
    (h : ∀ x t, cloneOnto x t = intoOwned x) :
    ∀ (elems : List X) (t : List O),
      SliceItem.cloneOnto intoOwned cloneOnto elems t = SliceItem.intoOwned intoOwned elems :=
  SliceItem.cloneOnto_eq intoOwned cloneOnto h

theorem slice_borrow_roundtrip (intoOwned : X → O) (borrowAs : O → X) (h : ∀ o, intoOwned (borrowAs o) = o) :
    ∀ o : List O, SliceItem.intoOwned intoOwned (SliceItem.borrowAs borrowAs o) = o :=
  SliceItem.intoOwned_borrowAs intoOwned borrowAs h

theorem slice_reborrow_id (elems : List X) : SliceItem.reborrow elems = elems := rfl

theorem readSlice_cloneOnto_is_slice {R V I Oc : Type} [Region R V I] [IdxCont Oc I] (x : ReadSlice R Oc V)
    (items : List V) (h : x.iter = some items) (t : List V) :
    x.cloneOnto t = some (SliceItem.cloneOnto BaseItem.intoOwned BaseItem.cloneOnto items t) := by
  rw [ReadSlice.cloneOnto_eq_iter, h,
    SliceItem.cloneOnto_base BaseItem.intoOwned BaseItem.cloneOnto (fun _ => rfl) fun _ _ => rfl]

theorem readColumns_cloneOnto_is_slice {R V I : Type} [Region R V I] (x : ReadColumns R I V)
    (items : List V) (h : x.iter = some items) (t : List V) :
    x.cloneOnto t = some (SliceItem.cloneOnto BaseItem.intoOwned BaseItem.cloneOnto items t) := by
  rw [ReadColumns.cloneOnto_eq_iter, h,
    SliceItem.cloneOnto_base BaseItem.intoOwned BaseItem.cloneOnto (fun _ => rfl) fun _ _ => rfl]

end Slice

section Nested
variable {X O : Type} [ItemLaws X O]

/-- **C14** for every item type built from base items by `Option`, `Result`, tuples and slices, to any
depth: `clone_onto` leaves `into_owned` in the target, whatever the target held -/
theorem cloneOnto_nested (x : X) (t : O) : ItemLaws.cloneOnto x t = ItemLaws.intoOwned x :=
  ItemLaws.cloneOnto_eq x t

/-- **C14** `borrow_as(&owned).into_owned() == owned`, nested -/
theorem borrowAs_nested (o : O) : ItemLaws.intoOwned (ItemLaws.borrowAs o : X) = o :=
  ItemLaws.intoOwned_borrowAs o

theorem roundtrip_nested (x : X) (t t' : O) :
    ItemLaws.intoOwned (ItemLaws.borrowAs (ItemLaws.intoOwned x) : X) = ItemLaws.intoOwned x ∧
    ItemLaws.cloneOnto (ItemLaws.borrowAs (ItemLaws.intoOwned x) : X) t = ItemLaws.cloneOnto x t' := by
  rw [cloneOnto_nested, cloneOnto_nested, borrowAs_nested]
  exact ⟨rfl, rfl⟩

theorem cloneOnto_overwrites (x y : X) (t : O) :
    ItemLaws.cloneOnto y (ItemLaws.cloneOnto x t) = ItemLaws.intoOwned y := cloneOnto_nested y _

end Nested

/-- instance resolution finds the laws for nested shapes -/
example (x : List (Option (Except (List Nat) Nat × Nat))) (t : List (Option (Except (List Nat) Nat × Nat))) :
    ItemLaws.cloneOnto x t = ItemLaws.intoOwned x := cloneOnto_nested x t

example (x : Option (List (List Bool)) × Except Unit (Option UInt8))
    (t : Option (List (List Bool)) × Except Unit (Option UInt8)) :
    ItemLaws.cloneOnto x t = ItemLaws.intoOwned x := cloneOnto_nested x t

example (x t : List (List (Option (Nat × (Bool × Char))))) :
    ItemLaws.cloneOnto x t = ItemLaws.intoOwned x ∧ ItemLaws.intoOwned (ItemLaws.borrowAs t : List (List (Option (Nat × (Bool × Char))))) = t :=
  ⟨cloneOnto_nested x t, borrowAs_nested t⟩

/-- the instance-derived operations are the Rust code paths: a concrete nested item cloned onto targets of
the same variant, the other variant, shorter and longer slices -/
example (x : List (Option (Except (List Nat) Nat × Nat)))
    (hx : x = [some (.ok 1, 2), none, some (.error [3, 4], 5)]) :
    ItemLaws.cloneOnto x [] = x ∧
    ItemLaws.cloneOnto x [none] = x ∧
    ItemLaws.cloneOnto x [some (.error [9], 9), some (.ok 7, 7), some (.error [8, 8, 8], 0), none, none] = x ∧
    ItemLaws.intoOwned x = x := by
  subst hx
  exact ⟨rfl, rfl, rfl, rfl⟩

/-- **C14** `clone_onto` (`clear`, then `extend` with the decoded symbols) leaves the owned value in the
target whatever it held — for both representations -/
theorem wrapped_cloneOnto_eq (a : Wrapped) (xs : List Nat) (h : a.decode = some xs) (t : List Nat) :
    a.cloneOnto t = some xs := by
  rw [Wrapped.cloneOnto_eq_decode, h]

theorem wrapped_cloneOnto_eq_intoOwned (a : Wrapped) (t : List Nat) : a.cloneOnto t = a.intoOwned := by
  rw [Wrapped.cloneOnto_eq_decode, Wrapped.intoOwned_eq_decode]

theorem wrapped_intoOwned_eq (a : Wrapped) (xs : List Nat) (h : a.decode = some xs) : a.intoOwned = some xs := by
  rw [Wrapped.intoOwned_eq_decode, h]

/-- **C14** `borrow_as(&owned).into_owned() == owned`, and `borrow_as(&x.into_owned())` decodes to the same
symbols as `x` whether `x` was raw or encoded -/
theorem wrapped_borrow_roundtrip (xs : List Nat) :
    (Wrapped.borrowAs xs).intoOwned = some xs ∧ (Wrapped.borrowAs xs).decode = some xs ∧
    ∀ a : Wrapped, a.intoOwned = some xs → (Wrapped.borrowAs xs).decode = a.decode := by
  refine ⟨rfl, rfl, fun a h => ?_⟩
  rw [← Wrapped.intoOwned_eq_decode a, h]
  rfl

theorem wrapped_reborrow_id (a : Wrapped) : a.reborrow = a := rfl

/-- `Region::index` of the Huffman container (Model/Huffman.lean) is: build the read item, decode it —
including both panics (the slice expression in raw mode, the decoder in coded mode) -/
theorem item_bind_decode_eq_index (h : Huff.Container) (i : Nat × Nat) :
    (h.item? i).bind Wrapped.decode = index h i := Huff.Container.item?_decode h i

/-- **C14** at a valid index the item exists and decodes to what `index` returns -/
theorem item_decode_eq_index (h : Huff.Container) (i : Nat × Nat) (hv : Valid h i) :
    h.item? i = some (h.item i) ∧ (h.item i).decode = index h i :=
  ⟨Huff.Container.item?_eq_item h i hv, Huff.Container.item_decode h i hv⟩

theorem item_decodes (h : Huff.Container) (i : Nat × Nat) (hi : Inv h) (hv : Valid h i) :
    ∃ xs, index h i = some xs ∧ (h.item i).decode = some xs ∧ (h.item i).intoOwned = some xs ∧
      ∀ t, (h.item i).cloneOnto t = some xs := by
  obtain ⟨xs, hxs, hd⟩ := Huff.Container.item_decodes h i hi hv
  exact ⟨xs, hxs, hd, wrapped_intoOwned_eq _ xs hd, wrapped_cloneOnto_eq _ xs hd⟩

/-- **C14** with C01: push, take the item at the returned index, `into_owned` — the pushed symbols; in raw
mode and in coded mode -/
theorem huffman_push_intoOwned (h : Huff.Container) (v : List Nat) (hi : Inv h) (ha : Accepts h v) :
    ∃ h' i, push h v = some (h', i) ∧ (h'.item i).decode = some v ∧ (h'.item i).intoOwned = some v ∧
      ∀ t, (h'.item i).cloneOnto t = some v := by
  obtain ⟨h', i, hp, -, -, hd⟩ := Huff.Container.item_of_push h v hi ha
  exact ⟨h', i, hp, hd, wrapped_intoOwned_eq _ v hd, wrapped_cloneOnto_eq _ v hd⟩

/-- **C14** copying an item (raw, encoded, or borrowed from a `Vec`) into another consistent Huffman container
(`Inv h₂`) — raw, or coded with a code that knows the symbols: the new item decodes to the same symbols -/
theorem huffman_copy_between (a : Wrapped) (xs : List Nat) (hx : a.intoOwned = some xs)
    (h₂ : Huff.Container) (hi : Inv h₂) (ha : Accepts h₂ xs) :
    ∃ h₂' j, a.intoOwned.bind (push h₂) = some (h₂', j) ∧ Inv h₂' ∧ Valid h₂' j ∧
      (h₂'.item j).decode = some xs := by
  obtain ⟨h', j, hp, hi', hv', hd⟩ := Huff.Container.item_of_push h₂ xs hi ha
  exact ⟨h', j, by rw [hx]; exact hp, hi', hv', hd⟩

/-- an item issued at a valid index of a consistent container never panics when decoded, so it is a
`WrappedOK` and the nested laws apply to composites containing it -/
theorem huffman_item_ok (h : Huff.Container) (i : Nat × Nat) (hi : Inv h) (hv : Valid h i) :
    (h.item i).decode.isSome := by
  obtain ⟨xs, -, hd, -⟩ := item_decodes h i hi hv
  rw [hd]; rfl

theorem wrappedOK_ops (a : WrappedOK) (t : List Nat) :
    a.1.intoOwned = some (ItemLaws.intoOwned a) ∧ a.1.cloneOnto t = some (ItemLaws.cloneOnto a t) := by
  obtain ⟨a, ha⟩ := a
  obtain ⟨xs, hxs⟩ := Option.isSome_iff_exists.1 ha
  simp only [ItemLaws.intoOwned, ItemLaws.cloneOnto, Wrapped.cloneOnto_eq_decode, Wrapped.intoOwned_eq_decode, hxs,
    Option.getD_some, and_self]

theorem readSliceOK_ops {R Oc V I : Type} [Region R V I] [IdxCont Oc I] (x : ReadSliceOK R Oc V) (t : List V) :
    x.1.intoOwned = some (ItemLaws.intoOwned x) ∧ x.1.cloneOnto t = some (ItemLaws.cloneOnto x t) := by
  obtain ⟨x, hx⟩ := x
  obtain ⟨items, hi⟩ := Option.isSome_iff_exists.1 hx
  simp only [ItemLaws.intoOwned, ItemLaws.cloneOnto, ReadSlice.cloneOnto_eq_iter, ReadSlice.intoOwned, hi,
    Option.getD_some, and_self]

/-- `ReadSlice` of `Option<(Wrapped, usize)>` items (a `SliceRegion<OptionRegion<TupleRegion<HuffmanContainer, _>>>`) -/
example (x : List (Option (WrappedOK × Nat))) (t : List (Option (List Nat × Nat))) :
    ItemLaws.cloneOnto x t = ItemLaws.intoOwned x := cloneOnto_nested x t

/-- `Result<ReadSlice<u64>, Wrapped>` -/
example (x : Except WrappedOK (ReadSliceOK (MirrorRegion Nat) (VecIdx Nat 8) Nat)) (t : Except (List Nat) (List Nat)) :
    ItemLaws.cloneOnto x t = ItemLaws.intoOwned x := cloneOnto_nested x t

end C14
end FC
