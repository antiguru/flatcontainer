import FlatModel.Proofs.Index
/-! C19: index compression delivers the documented space bounds. -/
namespace FC.C19
open FC

/-- the stride consumes the longest prefix that continues its pattern -/
def strideSplit : Stride → List Nat → Stride × List Nat
  | s, [] => (s, [])
  | s, x :: xs =>
    let (s', ok) := s.push x
    if ok then strideSplit s' xs else (s, x :: xs)

def pushAll (o : IndexOptimized) (xs : List Nat) : IndexOptimized := xs.foldl IndexOptimized.push o
def pushAllList (l : IndexList) (xs : List Nat) : IndexList := xs.foldl IndexList.push l

theorem pushAll_cons (o : IndexOptimized) (x : Nat) (xs : List Nat) : pushAll o (x :: xs) = pushAll (o.push x) xs := rfl
theorem pushAllList_cons (l : IndexList) (x : Nat) (xs : List Nat) :
    pushAllList l (x :: xs) = pushAllList (l.push x) xs := rfl

theorem push_chonk (l : IndexList) (x : Nat) (h : l.chonk ≠ []) : l.push x = ⟨l.smol, l.chonk ++ [x]⟩ := by
  have : l.chonk.isEmpty = false := by cases hc : l.chonk <;> simp_all
  simp [IndexList.push, this]
theorem push_small (smol : List Nat) (x : Nat) (hx : x < U32) :
    (⟨smol, []⟩ : IndexList).push x = ⟨smol ++ [x], []⟩ := by simp [IndexList.push, hx]
theorem push_large (smol : List Nat) (x : Nat) (hx : ¬ x < U32) :
    (⟨smol, []⟩ : IndexList).push x = ⟨smol, [x]⟩ := by simp [IndexList.push, hx]
theorem push_nonempty (l : IndexList) (x : Nat) : (l.push x).isEmpty = false := by
  unfold IndexList.push IndexList.isEmpty
  split
  · split <;> simp
  · simp

theorem list_chonk (l : IndexList) (xs : List Nat) (h : l.chonk ≠ []) :
    pushAllList l xs = ⟨l.smol, l.chonk ++ xs⟩ := by
  induction xs generalizing l with
  | nil => simp [pushAllList]
  | cons x xs ih =>
    rw [pushAllList_cons, push_chonk l x h, ih _ (by simp)]
    simp

theorem list_cost (smol : List Nat) (xs : List Nat) :
    pushAllList ⟨smol, []⟩ xs = ⟨smol ++ xs.takeWhile (· < U32), xs.dropWhile (· < U32)⟩ := by
  induction xs generalizing smol with
  | nil => simp [pushAllList]
  | cons x xs ih =>
    by_cases hx : x < U32
    · rw [pushAllList_cons, push_small smol x hx, ih]
      simp [hx]
    · rw [pushAllList_cons, push_large smol x hx, list_chonk _ xs (by simp)]
      simp [hx]

theorem spilled_nonempty {s : Stride} (l : IndexList) (xs : List Nat) (h : l.isEmpty = false) :
    pushAll ⟨s, l⟩ xs = ⟨s, pushAllList l xs⟩ := by
  induction xs generalizing l with
  | nil => rfl
  | cons x xs ih =>
    rw [pushAll_cons, pushAllList_cons, IndexOptimized.push_eq, if_neg (by simp [h])]
    exact ih (l.push x) (push_nonempty l x)

/-- **C19.cost**: where pushed values go, from a state with nothing spilled: the stride keeps the longest
prefix that continues its pattern (`strideSplit`); of the remainder, the values before the first one that
does not fit in `u32` go to the `u32` list, that one and everything after it to the `u64` list. The bytes
(0, 4 and 8 per entry) are `used_bytes`. -/
theorem cost (s : Stride) (xs : List Nat) :
    pushAll ⟨s, ⟨[], []⟩⟩ xs =
      ⟨(strideSplit s xs).1,
       ⟨(strideSplit s xs).2.takeWhile (· < U32), (strideSplit s xs).2.dropWhile (· < U32)⟩⟩ := by
  induction xs generalizing s with
  | nil => simp [pushAll, strideSplit]
  | cons x xs ih =>
    rw [pushAll_cons, IndexOptimized.push_eq, strideSplit]
    rcases s.push x with ⟨s', _ | _⟩
    · -- the stride rejects `x`: it and everything after it goes to the spill list
      simp only [Bool.false_eq_true, and_false, if_false]
      rw [spilled_nonempty _ xs (push_nonempty _ x), ← pushAllList_cons, list_cost]
      simp
    · simpa [IndexList.isEmpty] using ih s'

/-- heap bytes of an `IndexOptimized`: none for the prefix the stride takes, 4 per value after it while
values fit in `u32`, 8 per value from the first larger one on -/
theorem used_bytes (xs : List Nat) :
    IdxCont.usedBytes (pushAll ⟨.empty, ⟨[], []⟩⟩ xs) =
      [((strideSplit .empty xs).2.takeWhile (· < U32)).length * 4,
       ((strideSplit .empty xs).2.dropWhile (· < U32)).length * 8] := by
  rw [cost]
  rfl

theorem pushAll_range_succ (n : Nat) :
    pushAll ⟨.empty, ⟨[], []⟩⟩ (List.range (n + 1)) = IndexOptimized.push (pushAll ⟨.empty, ⟨[], []⟩⟩ (List.range n)) n := by
  simp [pushAll, List.range_succ, List.foldl_append]

/-- the dense sequence 0,1,…,n+1 (what consecutive-pair and columns regions hand out, C12) is held by the
stride alone (`striding 1 (n+2)`, nothing spilled) when n + 2 < 2^64; `dense_free`: zero heap bytes for
every length below 2^64 -/
theorem dense_state : ∀ n, n + 2 < USIZE →
    pushAll ⟨.empty, ⟨[], []⟩⟩ (List.range (n + 2)) = ⟨.striding 1 (n + 2), ⟨[], []⟩⟩ := by
  intro n
  induction n with
  | zero => exact fun _ => rfl
  | succ n ih =>
    intro hn
    rw [pushAll_range_succ, ih (by omega)]
    have hc : checkedMul 1 (n + 2) = some (n + 2) := by
      rw [Stride.checkedMul_eq_some]
      omega
    simp [IndexOptimized.push, IndexList.isEmpty, Stride.push, hc]

theorem dense_free (n : Nat) (hn : n < USIZE) :
    IdxCont.usedBytes (pushAll ⟨.empty, ⟨[], []⟩⟩ (List.range n)) = [0, 0] := by
  match n with
  | 0 => rfl
  | 1 => rfl
  | n + 2 =>
    rw [dense_state n hn]
    rfl

end FC.C19
