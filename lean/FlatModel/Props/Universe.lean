import FlatModel.Props.C01
import FlatModel.Proofs.Codec
import FlatModel.Proofs.HuffRegion
/-! A closed universe of region compositions.

`Generated/Covered.lean` checks `LawfulRegion T` for the type `T` of every catalogue entry, one
`inferInstance` each. Here "for every composition of region types" is a literal `∀`: `RDesc v ix` is the inductive
family of *well-typed region descriptions* (one constructor per type constructor of the crate, with
its trait bounds on item shape, index shape and density), `RDesc.bundle` interprets a description as a model type together with
its `Region` and `LawfulRegion` instances by structural recursion, and C01 / C02 / C08 are stated
as `∀ d : RDesc v ix, …`. -/
namespace FC.Universe
open FC Region

/-- shapes of owned values and of indices -/
inductive Ty where
  | nat | unit | f64 | u8
  | list (t : Ty)
  | opt (t : Ty)
  | res (ok err : Ty)
  | pair (a b : Ty)
deriving DecidableEq, Repr

/-- `res ok err` is `Except err ok`, the argument order of the `Region`
instance of `ResultRegion`. -/
@[reducible] def Ty.interp : Ty → Type
  | .nat => Nat
  | .unit => Unit
  | .f64 => F64
  | .u8 => UInt8
  | .list t => List t.interp
  | .opt t => Option t.interp
  | .res ok err => Except err.interp ok.interp
  | .pair a b => a.interp × b.interp

/-- `String` / `&[u8]` payloads -/
abbrev Ty.bytes : Ty := .list .u8
/-- `(usize, usize)` -/
abbrev Ty.range : Ty := .pair .nat .nat

example : Ty.range.interp = (Nat × Nat) := rfl
example : Ty.nat.interp = Nat := rfl
example : Ty.bytes.interp = List UInt8 := rfl

/-- `size_of` of a shape (only used as the element size of `Vec` index containers; heap
accounting). `nat` is `usize`; narrower integers are `nat` with an explicit size, see `IdxKind.vec`.
`opt` / `res` add a tag word of 8 bytes: `size_of` when the payload is 8-aligned (as in the catalogued
index shapes, see `section CoversCatalogue`), an over-estimate for smaller payloads (`Option<u8>` has
2 bytes). -/
def Ty.size : Ty → Nat
  | .nat => 8
  | .unit => 0
  | .f64 => 8
  | .u8 => 1
  | .list _ => 24
  | .opt t => t.size + 8
  | .res ok err => max ok.size err.size + 8
  | .pair a b => a.size + b.size

instance exceptDecEq {ε α : Type} [DecidableEq ε] [DecidableEq α] : DecidableEq (Except ε α)
  | .ok a, .ok b => if h : a = b then isTrue (by rw [h]) else isFalse (by intro h'; cases h'; exact h rfl)
  | .error a, .error b => if h : a = b then isTrue (by rw [h]) else isFalse (by intro h'; cases h'; exact h rfl)
  | .ok _, .error _ => isFalse (by intro h; cases h)
  | .error _, .ok _ => isFalse (by intro h; cases h)

@[instance_reducible] def Ty.decEq : (t : Ty) → DecidableEq t.interp
  | .nat => inferInstanceAs (DecidableEq Nat)
  | .unit => inferInstanceAs (DecidableEq Unit)
  | .f64 => inferInstanceAs (DecidableEq F64)
  | .u8 => inferInstanceAs (DecidableEq UInt8)
  | .list t => letI := t.decEq; inferInstanceAs (DecidableEq (List t.interp))
  | .opt t => letI := t.decEq; inferInstanceAs (DecidableEq (Option t.interp))
  | .res ok err => letI := ok.decEq; letI := err.decEq; inferInstanceAs (DecidableEq (Except err.interp ok.interp))
  | .pair a b => letI := a.decEq; letI := b.decEq; inferInstanceAs (DecidableEq (a.interp × b.interp))

/-- Rust `==` of a shape, chosen as instance resolution chooses it for the catalogued types:
IEEE equality on `f64`, structural (`derive(PartialEq)`) on lists, options, results and tuples, so a slice that
contains a NaN is not `==` itself. -/
@[instance_reducible] def Ty.hasEqv : (t : Ty) → HasEqv t.interp
  | .f64 => inferInstanceAs (HasEqv F64)
  | .nat => inferInstanceAs (HasEqv Nat)
  | .unit => inferInstanceAs (HasEqv Unit)
  | .u8 => inferInstanceAs (HasEqv UInt8)
  | .list t => letI := t.hasEqv; inferInstanceAs (HasEqv (List t.interp))
  | .opt t => letI := t.hasEqv; inferInstanceAs (HasEqv (Option t.interp))
  | .res ok err => letI := ok.hasEqv; letI := err.hasEqv; inferInstanceAs (HasEqv (Except err.interp ok.interp))
  | .pair a b => letI := a.hasEqv; letI := b.hasEqv; inferInstanceAs (HasEqv (a.interp × b.interp))

/-- which `IndexContainer` stores the indices: `Vec<I>` for any index shape (`sz` the element size:
the catalogue instantiates `nat` with `u8` … `u128`), `IndexOptimized` / `IndexList` only for `usize`. -/
inductive IdxKind : Ty → Type where
  | vec {i : Ty} (sz : Nat) : IdxKind i
  | opt : IdxKind .nat
  | list : IdxKind .nat
deriving Repr

abbrev IdxKind.vecStd {i : Ty} : IdxKind i := .vec i.size

structure IdxBundle (T : Type) where
  O : Type
  [inst : IdxCont O T]
  [lawful : LawfulIdxCont O]
attribute [instance] IdxBundle.inst IdxBundle.lawful

def IdxKind.bundle : {i : Ty} → IdxKind i → IdxBundle i.interp
  | i, .vec sz => { O := Capd (VecIdx i.interp sz) }
  | _, .opt => { O := Capd IndexOptimized }
  | _, .list => { O := Capd IndexList }

/-- what the composition rules need to know about the index of a region: its shape, and whether
the region is *dense* (index `(usize, usize)`, every push returns `(cursor, cursor')`), the
contract `ConsecutiveIndexPairs` relies on (deduplicate.rs:114). -/
inductive Ix where
  | any (i : Ty)
  | dense
deriving DecidableEq, Repr

@[reducible] def Ix.ty : Ix → Ty
  | .any i => i
  | .dense => .pair .nat .nat

/-- Well-typed region descriptions: `RDesc v ix` describes a region with owned item shape `v` and
index `ix`. One constructor per type constructor of the crate; the arguments carry the trait bounds
of the Rust `impl Region` on the owned item shape, the index shape and density. Bounds on `ReadItem`
are not expressed, so a few descriptions have no Rust counterpart (`collapse (slice …)`,
`string (vec …)`), and neither has `stack` below another constructor (`FlatStack` is not a `Region`
in the crate); a statement `∀ d : RDesc v ix` covers them as well. In the other direction two type
parameters of the crate are fixed at their defaults: `codec` is `CodecRegion<DictionaryCodec, OwnedRegion<u8>>`
only (not `CodecRegion<C, R>` over another inner region `R`), `owned` is `OwnedRegion<T, Vec<T>>` only. -/
inductive RDesc : Ty → Ix → Type where
  /-- `MirrorRegion<T>` -/
  | mirror (t : Ty) : RDesc t (.any t)
  /-- `OwnedRegion<T>` -/
  | owned (t : Ty) : RDesc (.list t) .dense
  /-- `Vec<T>` as a region -/
  | vec (t : Ty) : RDesc t (.any .nat)
  /-- `StringRegion<R>`, `R: Region<Owned = [u8]>`; dense when `R` is -/
  | string {ix : Ix} : RDesc (.list .u8) ix → RDesc (.list .u8) ix
  /-- `OptionRegion<R>` -/
  | option {v : Ty} {ix : Ix} : RDesc v ix → RDesc (.opt v) (.any (.opt ix.ty))
  /-- `ResultRegion<T, E>` -/
  | result {vt ve : Ty} {it ie : Ix} : RDesc vt it → RDesc ve ie → RDesc (.res vt ve) (.any (.res it.ty ie.ty))
  /-- `()` -/
  | tupleNil : RDesc .unit (.any .unit)
  /-- `TupleABCRegion`: arity n is n nested `tupleCons` ending in `tupleNil` -/
  | tupleCons {va vb : Ty} {ia ib : Ix} : RDesc va ia → RDesc vb ib → RDesc (.pair va vb) (.any (.pair ia.ty ib.ty))
  /-- `CollapseSequence<R>`; never dense (a collapsed push returns the previous index) -/
  | collapse {v : Ty} {ix : Ix} : RDesc v ix → RDesc v (.any ix.ty)
  /-- `SliceRegion<R, O>`, `O: IndexContainer<R::Index>` -/
  | slice {v : Ty} {ix : Ix} : RDesc v ix → IdxKind ix.ty → RDesc (.list v) .dense
  /-- `ConsecutiveIndexPairs<R, O>`: `R` must be dense, `O: IndexContainer<usize>` -/
  | consec {v : Ty} : RDesc v .dense → IdxKind .nat → RDesc v (.any .nat)
  /-- `ColumnsRegion<R, O>`, `O: IndexContainer<usize>` -/
  | columns {v : Ty} {ix : Ix} : RDesc v ix → IdxKind .nat → RDesc (.list v) (.any .nat)
  /-- `CodecRegion<DictionaryCodec>` -/
  | codec : RDesc (.list .u8) .dense
  /-- `HuffmanContainer<B>` over wide symbols -/
  | huffman : RDesc (.list .nat) .dense
  /-- `HuffmanContainer<u8>` -/
  | huffmanU8 : RDesc (.list .u8) .dense
  /-- `FlatStack<R, S>` seen as a region (`copy` is `push`), `S: IndexContainer<R::Index>` -/
  | stack {v : Ty} {ix : Ix} : RDesc v ix → IdxKind ix.ty → RDesc v (.any .nat)

structure Bundle (v i : Ty) where
  R : Type
  [inst : Region R v.interp i.interp]
  [lawful : LawfulRegion R]
attribute [instance] Bundle.inst Bundle.lawful

structure DBundle (v : Ty) where
  R : Type
  [inst : Region R v.interp (Nat × Nat)]
  [dense : DenseRegion R]
  [lawful : LawfulRegion R]
  [lawfulDense : LawfulDense R]
attribute [instance] DBundle.inst DBundle.dense DBundle.lawful DBundle.lawfulDense

def DBundle.toBundle {v : Ty} (b : DBundle v) : Bundle v (.pair .nat .nat) :=
  { R := b.R, inst := b.inst, lawful := b.lawful }

@[reducible] def BundleX (v : Ty) : Ix → Type 1
  | .any i => Bundle v i
  | .dense => DBundle v

def BundleX.toBundle {v : Ty} : {ix : Ix} → BundleX v ix → Bundle v ix.ty
  | .any _, b => b
  | .dense, b => DBundle.toBundle b

section Combinators
variable {v i va ia vb ib : Ty}

def Bundle.mirror (t : Ty) : Bundle t t := { R := MirrorRegion t.interp }
def DBundle.owned (t : Ty) : DBundle (.list t) := { R := OwnedRegion t.interp }
def Bundle.vec (t : Ty) : Bundle t .nat := { R := VecRegion t.interp }
def Bundle.string (b : Bundle (.list .u8) i) : Bundle (.list .u8) i :=
  letI : Region b.R (List UInt8) i.interp := b.inst
  letI : LawfulRegion b.R := b.lawful
  { R := StringRegion b.R }
def DBundle.string (b : DBundle (.list .u8)) : DBundle (.list .u8) :=
  letI : Region b.R (List UInt8) (Nat × Nat) := b.inst
  letI : DenseRegion b.R := b.dense
  letI : LawfulRegion b.R := b.lawful
  letI : LawfulDense b.R := b.lawfulDense
  { R := StringRegion b.R }
def Bundle.option (b : Bundle v i) : Bundle (.opt v) (.opt i) := { R := OptionRegion b.R }
def Bundle.result (t : Bundle va ia) (e : Bundle vb ib) : Bundle (.res va vb) (.res ia ib) :=
  { R := ResultRegion t.R e.R }
def Bundle.tupleNil : Bundle .unit .unit := { R := TupleNil }
def Bundle.tupleCons (a : Bundle va ia) (b : Bundle vb ib) : Bundle (.pair va vb) (.pair ia ib) :=
  { R := TupleCons a.R b.R }
def Bundle.collapse (b : Bundle v i) : Bundle v i :=
  letI := v.hasEqv
  { R := CollapseSequence b.R i.interp }
def DBundle.slice (b : Bundle v i) (o : IdxBundle i.interp) : DBundle (.list v) := { R := SliceRegion b.R o.O }
def Bundle.consec (b : DBundle v) (o : IdxBundle Nat) : Bundle v .nat := { R := ConsecPairs b.R o.O }
def Bundle.columns (b : Bundle v i) (o : IdxBundle Nat) : Bundle (.list v) .nat :=
  { R := ColumnsRegion b.R i.interp o.O }
def DBundle.codec : DBundle (.list .u8) := { R := Codec.Region }
def DBundle.huffman : DBundle (.list .nat) := { R := Huff.Container }
def DBundle.huffmanU8 : DBundle (.list .u8) := { R := HuffU8 }
def Bundle.stack (b : Bundle v i) (o : IdxBundle i.interp) : Bundle v .nat := { R := FlatStack b.R o.O }

end Combinators

def RDesc.bundleX : {v : Ty} → {ix : Ix} → RDesc v ix → BundleX v ix
  | _, _, .mirror t => Bundle.mirror t
  | _, _, .owned t => DBundle.owned t
  | _, _, .vec t => Bundle.vec t
  | _, .any _, .string d => Bundle.string d.bundleX
  | _, .dense, .string d => DBundle.string d.bundleX
  | _, _, .option d => Bundle.option d.bundleX.toBundle
  | _, _, .result t e => Bundle.result t.bundleX.toBundle e.bundleX.toBundle
  | _, _, .tupleNil => Bundle.tupleNil
  | _, _, .tupleCons a b => Bundle.tupleCons a.bundleX.toBundle b.bundleX.toBundle
  | _, _, .collapse d => Bundle.collapse d.bundleX.toBundle
  | _, _, .slice d k => DBundle.slice d.bundleX.toBundle k.bundle
  | _, _, .consec d k => Bundle.consec d.bundleX k.bundle
  | _, _, .columns d k => Bundle.columns d.bundleX.toBundle k.bundle
  | _, _, .codec => DBundle.codec
  | _, _, .huffman => DBundle.huffman
  | _, _, .huffmanU8 => DBundle.huffmanU8
  | _, _, .stack d k => Bundle.stack d.bundleX.toBundle k.bundle

def RDesc.bundle {v : Ty} {ix : Ix} (d : RDesc v ix) : Bundle v ix.ty := d.bundleX.toBundle

abbrev RDesc.R {v : Ty} {ix : Ix} (d : RDesc v ix) : Type := d.bundle.R

section Laws
variable {v : Ty} {ix : Ix}

theorem lawful (d : RDesc v ix) : LawfulRegion d.R := d.bundle.lawful

theorem lawfulDense (d : RDesc v .dense) : LawfulDense d.bundleX.R := d.bundleX.lawfulDense

/-- **C01 for every composition**: wherever the invariant holds, an accepted push succeeds and the
returned index reads back the pushed value. -/
theorem C01_every_composition (d : RDesc v ix) (r : d.R) (hi : Inv r) (x : v.interp) (ha : Accepts r x) :
    ∃ r' j, push r x = some (r', j) ∧ ∃ x', index r' j = some x' ∧ same (R := d.R) x' x :=
  LawfulRegion.push_ok r x hi ha

/-- C01 in the states reachable from a new region by pushes and clears (`Reachable`;
`FC.C01.roundtrip`), and the refusal half -/
theorem C01_reachable (d : RDesc v ix) (r : d.R) (hr : Reachable r) (x : v.interp) :
    (Accepts r x → ∃ r' j, push r x = some (r', j) ∧ ∃ x', index r' j = some x' ∧ same (R := d.R) x' x) ∧
    (¬ Accepts r x → push r x = none) :=
  ⟨C01.roundtrip r hr x, C01.refused r hr x⟩

/-- **C02 for every composition**: a valid index stays valid and keeps reading the same item through
any history of pushes. -/
theorem C02_every_composition (d : RDesc v ix) (r r' : d.R) (ops : List (Op v.interp)) (j : ix.ty.interp)
    (hi : Inv r) (hv : Valid r j) (hnc : C02.noClear ops) (h : run r ops = some r') :
    Valid r' j ∧ index r' j = index r j :=
  C02.frame_history r r' ops j hi hv hnc h

/-- every index a push returns is valid, hence covered by `C02_every_composition` -/
theorem C02_issued_valid (d : RDesc v ix) (r r' : d.R) (x : v.interp) (j : ix.ty.interp) (hi : Inv r)
    (hp : push r x = some (r', j)) : Valid r' j :=
  C02.issued_valid r r' x j hi hp

/-- **C08 for every composition**: after `clear` of a region reached from a new one by pushes and
clears (`Reachable`: no reservation, merge or clone in the history before the `clear`), any sequence
of pushes returns the same indices as on a fresh region and ends in states that read the same at
every valid index. -/
theorem C08_every_composition (d : RDesc v ix) (r : d.R) (hr : Reachable r) (vs : List v.interp) :
    C08.trace (clear r) vs = C08.trace (default : d.R) vs ∧
    ((C08.runPushes (clear r) vs = none ∧ C08.runPushes (default : d.R) vs = none) ∨
      ∃ a' b', C08.runPushes (clear r) vs = some a' ∧ C08.runPushes (default : d.R) vs = some b' ∧
        ∀ i, (Valid a' i ↔ Valid b' i) ∧ (Valid a' i → index a' i = index b' i)) :=
  C08.after_clear r hr vs

end Laws

/-! ### covers_catalogue

Descriptions whose interpretation is *definitionally* a catalogued type (`Generated/Covered.lean`,
`Props/Catalogue.lean`), and whose bundled `Region` instance is the one instance resolution finds.
`Generated/CoveredUniverse.lean` checks the first (`d.R = T` by `rfl`) for every entry of the catalogue; it
has no example about `bundle.inst`. The second is checked here for four entries, and for every entry
only indirectly: the examples `d.aux = (inferInstance : RegionAux T)` of `Generated/CoveredUniverseOps*.lean`
type-check only if the two `Region` instances are definitionally equal. -/
section CoversCatalogue

/-- `StringRegion<OwnedRegion<u8>>`, the default region of `String` -/
abbrev str : RDesc .bytes .dense := .string (.owned .u8)
abbrev pairIdx : IdxKind .range := .vec 16

example : (RDesc.mirror .nat).R = MirrorRegion Nat := rfl
example : (RDesc.vec .bytes).R = VecRegion (List UInt8) := rfl
example : str.R = StringRegion (OwnedRegion UInt8) := rfl
example : (RDesc.slice str (.vec 16)).R =
    SliceRegion (StringRegion (OwnedRegion UInt8)) (Capd (VecIdx (Nat × Nat) 16)) := rfl
-- the awkward nestings named by the properties
example : (RDesc.columns (.collapse (.consec str .opt)) .opt).R =
    ColumnsRegion (CollapseSequence (ConsecPairs (StringRegion (OwnedRegion UInt8)) (Capd IndexOptimized)) Nat) Nat
      (Capd IndexOptimized) := rfl
example : (RDesc.slice (.slice (.slice (.slice (.slice (.mirror .nat) (.vec 1)) pairIdx) pairIdx) pairIdx) pairIdx).R =
    SliceRegion (SliceRegion (SliceRegion (SliceRegion (SliceRegion (MirrorRegion Nat) (Capd (VecIdx Nat 1)))
      (Capd (VecIdx (Nat × Nat) 16))) (Capd (VecIdx (Nat × Nat) 16))) (Capd (VecIdx (Nat × Nat) 16)))
      (Capd (VecIdx (Nat × Nat) 16)) := rfl
example : (RDesc.tupleCons (.option str) (.tupleCons (.result (.owned .nat) (.mirror .nat)) .tupleNil)).R =
    TupleCons (OptionRegion (StringRegion (OwnedRegion UInt8)))
      (TupleCons (ResultRegion (OwnedRegion Nat) (MirrorRegion Nat)) TupleNil) := rfl
example : (RDesc.stack (.consec (.owned .u8) .list) .opt).R =
    FlatStack (ConsecPairs (OwnedRegion UInt8) (Capd IndexList)) (Capd IndexOptimized) := rfl
example : (RDesc.consec (.slice (.collapse str) pairIdx) (.vec 8)).R =
    ConsecPairs (SliceRegion (CollapseSequence (StringRegion (OwnedRegion UInt8)) (Nat × Nat)) (Capd (VecIdx (Nat × Nat) 16)))
      (Capd (VecIdx Nat 8)) := rfl
example : (RDesc.slice (.string (.consec (.owned .u8) .list)) .list).R =
    SliceRegion (StringRegion (ConsecPairs (OwnedRegion UInt8) (Capd IndexList))) (Capd IndexList) := rfl
example : (RDesc.string (.collapse (.owned .u8))).R =
    StringRegion (CollapseSequence (OwnedRegion UInt8) (Nat × Nat)) := rfl
example : (RDesc.consec .huffmanU8 .opt).R = ConsecPairs HuffU8 (Capd IndexOptimized) := rfl
example : (RDesc.consec .codec .opt).R = ConsecPairs Codec.Region (Capd IndexOptimized) := rfl
example : (RDesc.string .codec).R = StringRegion Codec.Region := rfl
example : (RDesc.slice .huffmanU8 pairIdx).R = SliceRegion HuffU8 (Capd (VecIdx (Nat × Nat) 16)) := rfl
example : (RDesc.stack .huffman pairIdx).R = FlatStack Huff.Container (Capd (VecIdx (Nat × Nat) 16)) := rfl
-- index shapes of fan-out regions inside index containers (`Ty.size` gives the catalogued sizes)
example : (RDesc.stack (.result (.slice (.mirror .nat) (.vec 1)) str) .vecStd).R =
    FlatStack (ResultRegion (SliceRegion (MirrorRegion Nat) (Capd (VecIdx Nat 1))) (StringRegion (OwnedRegion UInt8)))
      (Capd (VecIdx (Except (Nat × Nat) (Nat × Nat)) 24)) := rfl
example : (RDesc.stack (.tupleCons (.option str) (.tupleCons (.owned .nat) .tupleNil)) .vecStd).R =
    FlatStack (TupleCons (OptionRegion (StringRegion (OwnedRegion UInt8))) (TupleCons (OwnedRegion Nat) TupleNil))
      (Capd (VecIdx ((Option (Nat × Nat)) × ((Nat × Nat) × Unit)) 40)) := rfl
example : (RDesc.slice (.tupleCons str .tupleNil) .vecStd).R =
    SliceRegion (TupleCons (StringRegion (OwnedRegion UInt8)) TupleNil) (Capd (VecIdx ((Nat × Nat) × Unit) 16)) := rfl
example : (RDesc.columns str (.vec 8)).R =
    ColumnsRegion (StringRegion (OwnedRegion UInt8)) (Nat × Nat) (Capd (VecIdx Nat 8)) := rfl
example : (RDesc.collapse (.mirror .f64)).R = CollapseSequence (MirrorRegion F64) F64 := rfl

example : (RDesc.columns (.collapse (.consec str .opt)) .opt).bundle.inst =
    (inferInstance : Region (ColumnsRegion (CollapseSequence (ConsecPairs (StringRegion (OwnedRegion UInt8))
      (Capd IndexOptimized)) Nat) Nat (Capd IndexOptimized)) (List (List UInt8)) Nat) := rfl
-- `f64` payloads collapse by IEEE `==`, everything else structurally
example : (RDesc.collapse (.mirror .f64)).bundle.inst =
    (inferInstance : Region (CollapseSequence (MirrorRegion F64) F64) F64 F64) := rfl
example : (RDesc.collapse str).bundle.inst =
    (inferInstance : Region (CollapseSequence (StringRegion (OwnedRegion UInt8)) (Nat × Nat)) (List UInt8) (Nat × Nat)) := rfl
example : (RDesc.stack (.consec (.owned .u8) .list) .opt).bundle.inst =
    (inferInstance : Region (FlatStack (ConsecPairs (OwnedRegion UInt8) (Capd IndexList)) (Capd IndexOptimized))
      (List UInt8) Nat) := rfl

end CoversCatalogue

/-! ### what the universe cannot express

`ConsecutiveIndexPairs<R, O>` type-checks in Rust for any `R: Region<Index = (usize, usize)>`, but is
only correct over a *dense* `R`. `consec` demands index `Ix.dense`, and a description has that index
only if its head constructor is one of the dense ones; `collapse d` has index `.any _` whatever `d`
is, so `consec (collapse d) k` is not a term of the universe. -/
section Negative

inductive Head where
  | mirror | owned | vec | string | option | result | tupleNil | tupleCons | collapse | slice | consec
  | columns | codec | huffman | huffmanU8 | stack
deriving DecidableEq, Repr

def RDesc.head : {v : Ty} → {ix : Ix} → RDesc v ix → Head
  | _, _, .mirror _ => .mirror
  | _, _, .owned _ => .owned
  | _, _, .vec _ => .vec
  | _, _, .string _ => .string
  | _, _, .option _ => .option
  | _, _, .result _ _ => .result
  | _, _, .tupleNil => .tupleNil
  | _, _, .tupleCons _ _ => .tupleCons
  | _, _, .collapse _ => .collapse
  | _, _, .slice _ _ => .slice
  | _, _, .consec _ _ => .consec
  | _, _, .columns _ _ => .columns
  | _, _, .codec => .codec
  | _, _, .huffman => .huffman
  | _, _, .huffmanU8 => .huffmanU8
  | _, _, .stack _ _ => .stack

theorem dense_heads {v : Ty} (d : RDesc v .dense) :
    d.head = .owned ∨ d.head = .slice ∨ d.head = .codec ∨ d.head = .huffman ∨ d.head = .huffmanU8 ∨
      (d.head = .string ∧ ∃ d' : RDesc (.list .u8) .dense, HEq d (RDesc.string d')) := by
  cases d <;> simp [RDesc.head]

/-- no dense description is a `collapse` (nor any other non-dense wrapper): the argument of
`consec` is never `collapse …` -/
theorem dense_not_collapse {v : Ty} (d : RDesc v .dense) :
    d.head ≠ .collapse ∧ d.head ≠ .consec ∧ d.head ≠ .columns ∧ d.head ≠ .stack ∧ d.head ≠ .mirror ∧
      d.head ≠ .vec ∧ d.head ≠ .option ∧ d.head ≠ .result ∧ d.head ≠ .tupleCons ∧ d.head ≠ .tupleNil := by
  cases d <;> simp [RDesc.head]

/-- "the description is dense": what `consec` demands of its argument (it is part of the type) -/
def Dense {v : Ty} {ix : Ix} (_d : RDesc v ix) : Prop := ix = .dense

example {v : Ty} (d : RDesc v .dense) : Dense d := rfl
theorem collapse_not_dense {v : Ty} {ix : Ix} (d : RDesc v ix) : ¬ Dense (RDesc.collapse d) := nofun
example {v : Ty} (d : RDesc v .dense) (k : IdxKind .nat) : ¬ Dense (RDesc.consec d k) := nofun
example {v : Ty} {ix : Ix} (d : RDesc v ix) : ¬ Dense (RDesc.option d) := nofun

/-- The exclusion is necessary, not an artefact: give `CollapseSequence<OwnedRegion<u8>>` *any*
cursor, `ConsecutiveIndexPairs` over it violates C01 -- pushing the same item twice collapses, the
inner index is `(0, 1)` again, and `debug_assert_eq!(index.0, self.last_index)` fires. -/
theorem consec_collapse_unlawful [DenseRegion (CollapseSequence (OwnedRegion UInt8) (Nat × Nat))] :
    ¬ LawfulRegion (ConsecPairs (CollapseSequence (OwnedRegion UInt8) (Nat × Nat)) (VecIdx Nat 8)) := by
  intro h
  obtain ⟨r1, i, hp, -⟩ := h.push_ok Region.default [1] h.inv_default (Or.inr trivial)
  have hi1 := (h.push_inv _ _ _ _ h.inv_default hp).1
  obtain ⟨r2, j, hp2, -⟩ := h.push_ok r1 [1] hi1 (Or.inr trivial)
  have e1 : push (Region.default : ConsecPairs (CollapseSequence (OwnedRegion UInt8) (Nat × Nat)) (VecIdx Nat 8)) [1] =
      some (⟨⟨⟨⟨[1], 1⟩⟩, some (0, 1)⟩, ⟨[0, 1]⟩, 1⟩, 0) := rfl
  cases e1.symm.trans hp
  have e2 : push (⟨⟨⟨⟨[1], 1⟩⟩, some (0, 1)⟩, ⟨[0, 1]⟩, 1⟩ :
      ConsecPairs (CollapseSequence (OwnedRegion UInt8) (Nat × Nat)) (VecIdx Nat 8)) [1] = none := rfl
  cases e2.symm.trans hp2

end Negative

end FC.Universe
