import FlatModel.Proofs.CapsGrowth
import FlatModel.Props.Catalogue
/-! C17 (allocation discipline): after `reserve_items`, `reserve_regions`, `merge_regions` /
`FlatStack::merge_capacity`, pushing exactly the announced contents changes no capacity (`HasRoom.no_growth` and
its family); without pre-sizing a capacity changes at most logarithmically often, since every change at least
doubles it (`log_growth`, `push_doubles`). `Built` are the states in which the hypotheses of both hold. -/
namespace FC
open Region Sized C08

namespace C17
section
variable {R V I : Type} [Region R V I] [RegionAux R] [Sized R] [L : LawfulSized R]

theorem push_caps_fit (r r' : R) (v : V) (i : I) (hc : CInv r) (hp : push r v = some (r', i)) (hf : Fits r v) :
    caps r' = caps r :=
  L.push_fit r r' v i hc hp hf

def HasRoom (r : R) (a : List Nat) : Prop := CInv r ∧ vle (vadd (lens r) a) (caps r)

/-- **C17**, the statement behind every member of the family below: a batch that needs at most the
room there is changes no capacity, nor what `heap_size` reports of the capacities. The members differ
in which operation made the room. -/
theorem HasRoom.no_growth {r r' : R} {a : List Nat} {vs : List V} (h : HasRoom r a)
    (hvs : vle (growAll (R := R) vs) a) (hp : runPushes r vs = some r') :
    caps r' = caps r ∧ (RegionAux.heap r').map (·.2) = (RegionAux.heap r).map (·.2) := by
  obtain ⟨hc', hm⟩ := runPushes_moves h.1 hp
  have e := hm.fit (vle_trans (vadd_vle_vadd (vle_refl _) hvs) h.2)
  exact ⟨e, by rw [L.heap_caps r' hc', L.heap_caps r h.1, e]⟩

theorem hasRoom_merge (rs : List R) : HasRoom (RegionAux.mergeRegions rs : R) (lensAll rs) :=
  ⟨L.merge_cinv rs, by rw [L.merge_lens, zeros_vadd (Nat.le_of_eq (len_lensAll rs))]; exact L.merge_room rs⟩

theorem hasRoom_reserveItems [LR : LawfulReserve R] (r : R) (vs : List V) (hc : CInv r) :
    HasRoom (RegionAux.reserveItems r vs) (growAll (R := R) vs) :=
  ⟨L.reserveItems_cinv r vs hc, by rw [L.reserveItems_lens]; exact LR.reserveItems_room r vs hc⟩

theorem hasRoom_reserveRegions [LR : LawfulReserve R] (r : R) (rs : List R) (hc : CInv r) :
    HasRoom (RegionAux.reserveRegions r rs) (lensAll rs) :=
  ⟨L.reserveRegions_cinv r rs hc, by rw [L.reserveRegions_lens]; exact LR.reserveRegions_room r rs hc⟩

theorem pushes_fit (r r' : R) (vs : List V) (hc : CInv r)
    (hroom : vle (vadd (lens r) (growAll (R := R) vs)) (caps r)) (h : runPushes r vs = some r') :
    caps r' = caps r :=
  (HasRoom.no_growth ⟨hc, hroom⟩ (vle_refl _) h).1

theorem lens_of_pushes (ws : List V) (x : R) (h : runPushes (default : R) ws = some x) :
    lens x = growAll (R := R) ws := by
  rw [runPushes_lens h, L.lens_default]
  exact zeros_vadd (Nat.le_of_eq (len_growAll ws))

variable [LR : LawfulReserve R]

/-- **C17** `reserve_items(items)`, then pushing exactly `items`: no capacity changes; `r` empty or populated. -/
theorem no_growth_after_reserve_items (r r' : R) (vs : List V) (hc : CInv r)
    (h : runPushes (RegionAux.reserveItems r vs) vs = some r') :
    caps r' = caps (RegionAux.reserveItems r vs) :=
  ((hasRoom_reserveItems r vs hc).no_growth (vle_refl _) h).1

/-- **C17** `reserve_regions(regions)`, then pushing contents that amount to the announced regions -/
theorem no_growth_after_reserve_regions (r r' : R) (rs : List R) (vs : List V) (hc : CInv r)
    (hvs : growAll (R := R) vs = lensAll rs)
    (h : runPushes (RegionAux.reserveRegions r rs) vs = some r') :
    caps r' = caps (RegionAux.reserveRegions r rs) :=
  ((hasRoom_reserveRegions r rs hc).no_growth (vle_of_eq hvs) h).1

end

section
variable {R V I : Type} [Region R V I] [RegionAux R] [Sized R] [L : LawfulSized R]

/-- **C17** `merge_regions(regions)` (for `FlatStack`: `merge_capacity(stacks)`), then pushing
contents that amount to the announced regions: no capacity changes -/
theorem no_growth_after_merge (rs : List R) (vs : List V) (r' : R)
    (hvs : growAll (R := R) vs = lensAll rs)
    (h : runPushes (RegionAux.mergeRegions rs) vs = some r') :
    caps r' = caps (RegionAux.mergeRegions rs) :=
  ((hasRoom_merge rs).no_growth (vle_of_eq hvs) h).1

/-- the hypothesis `growAll vs = lensAll rs` holds when `vs` is the concatenation of what was pushed
into the source regions (`srcs`: each source region with the values it was built from) -/
theorem growAll_of_sources (srcs : List (R × List V))
    (h : ∀ p ∈ srcs, runPushes (default : R) p.2 = some p.1) :
    growAll (R := R) (srcs.map (·.2)).flatten = lensAll (srcs.map (·.1)) := by
  induction srcs with
  | nil => rfl
  | cons p srcs ih =>
    rw [List.map_cons, List.flatten_cons, growAll_append, ih (fun q hq => h q (by simp [hq])),
      ← lens_of_pushes _ _ (h p (by simp))]
    rfl

/-- end to end: merge regions that were built by pushing, push all of their contents: no growth -/
theorem no_growth_merge_sources (srcs : List (R × List V))
    (hs : ∀ p ∈ srcs, runPushes (default : R) p.2 = some p.1) (r' : R)
    (h : runPushes (RegionAux.mergeRegions (srcs.map (·.1))) (srcs.map (·.2)).flatten = some r') :
    caps r' = caps (RegionAux.mergeRegions (srcs.map (·.1))) :=
  no_growth_after_merge _ _ r' (growAll_of_sources srcs hs) h

theorem heap_caps_constant (r0 r' : R) (hc0 : CInv r0) (hc' : CInv r') (h : caps r' = caps r0) :
    (RegionAux.heap r').map (·.2) = (RegionAux.heap r0).map (·.2) := by
  rw [L.heap_caps r' hc', L.heap_caps r0 hc0, h]

/-- **C17** on `heap_size`: after `merge_regions`, absorbing the announced contents leaves every
reported capacity as it was -/
theorem heap_constant_after_merge (rs : List R) (vs : List V) (r' : R)
    (hvs : growAll (R := R) vs = lensAll rs)
    (h : runPushes (RegionAux.mergeRegions rs) vs = some r') :
    (RegionAux.heap r').map (·.2) = (RegionAux.heap (RegionAux.mergeRegions rs : R)).map (·.2) :=
  ((hasRoom_merge rs).no_growth (vle_of_eq hvs) h).2

variable [LR : LawfulReserve R]

/-- **C17** on `heap_size`: after `reserve_items(items)`, pushing `items` leaves every reported capacity as it was -/
theorem heap_constant_after_reserve_items (r r' : R) (vs : List V) (hc : CInv r)
    (h : runPushes (RegionAux.reserveItems r vs) vs = some r') :
    (RegionAux.heap r').map (·.2) = (RegionAux.heap (RegionAux.reserveItems r vs)).map (·.2) :=
  ((hasRoom_reserveItems r vs hc).no_growth (vle_refl _) h).2

/-- **C17** on `heap_size`: after `reserve_regions(regions)` -/
theorem heap_constant_after_reserve_regions (r r' : R) (rs : List R) (vs : List V) (hc : CInv r)
    (hvs : growAll (R := R) vs = lensAll rs)
    (h : runPushes (RegionAux.reserveRegions r rs) vs = some r') :
    (RegionAux.heap r').map (·.2) = (RegionAux.heap (RegionAux.reserveRegions r rs)).map (·.2) :=
  ((hasRoom_reserveRegions r rs hc).no_growth (vle_of_eq hvs) h).2

end

section Growth
variable {R V I : Type} [Region R V I] [RegionAux R] [Sized R] [L : LawfulSized R] [G : LawfulGrowth R]

/-- states built from empty by `push`, `clear`, the two reservation calls and `merge_regions`. Not `clone` /
`clone_from`, which `Reach` (`Props/C09.lean`) has: `LawfulSized` has no law about them. -/
inductive Built : R → Prop
  | default : Built (default : R)
  | push (r r' : R) (v : V) (i : I) : Built r → Region.push r v = some (r', i) → Built r'
  | clear (r : R) : Built r → Built (Region.clear r)
  | reserveItems (r : R) (vs : List V) : Built r → Built (RegionAux.reserveItems r vs)
  | reserveRegions (r : R) (rs : List R) : Built r → Built (RegionAux.reserveRegions r rs)
  | mergeRegions (rs : List R) : Built (RegionAux.mergeRegions rs)

theorem built_inv (r : R) (h : Built r) : CInv r ∧ vle (lens r) (caps r) := by
  induction h with
  | default =>
    refine ⟨L.cinv_default, ?_⟩
    rw [L.lens_default]; exact vle_zeros (L.len_caps _)
  | push r r' v i _ hp ih => exact ⟨L.push_cinv r r' v i ih.1 hp, G.push_wf r r' v i ih.1 ih.2 hp⟩
  | clear r _ ih =>
    refine ⟨G.clear_cinv r ih.1, ?_⟩
    rw [G.clear_lens]; exact vle_zeros (L.len_caps _)
  | reserveItems r vs _ ih =>
    refine ⟨L.reserveItems_cinv r vs ih.1, ?_⟩
    rw [L.reserveItems_lens]; exact vle_trans ih.2 (L.reserveItems_mono r vs ih.1)
  | reserveRegions r rs _ ih =>
    refine ⟨L.reserveRegions_cinv r rs ih.1, ?_⟩
    rw [L.reserveRegions_lens]; exact vle_trans ih.2 (L.reserveRegions_mono r rs ih.1)
  | mergeRegions rs =>
    refine ⟨L.merge_cinv rs, ?_⟩
    rw [L.merge_lens]; exact vle_zeros (L.len_caps _)

theorem built_cinv (r : R) (h : Built r) : CInv r := (built_inv r h).1

theorem hasRoom_clear (r : R) (hc : CInv r) (hw : vle (lens r) (caps r)) : HasRoom (clear r) (lens r) :=
  ⟨G.clear_cinv r hc, by rw [G.clear_lens, G.clear_caps, zeros_vadd (Nat.le_of_eq (L.len_lens r))]; exact hw⟩

/-- `clear` keeps every allocation: refilling a cleared region with no more than it held changes no capacity -/
theorem no_growth_after_clear (r r' : R) (vs : List V) (hc : CInv r) (hw : vle (lens r) (caps r))
    (hvs : vle (growAll (R := R) vs) (lens r)) (h : runPushes (clear r) vs = some r') :
    caps r' = caps r :=
  G.clear_caps r ▸ ((hasRoom_clear r hc hw).no_growth hvs h).1

/-- **C17, without pre-sizing** (`log_growth`): along any batch of pushes, from any state with `CInv`, the `j`-th
capacity changes at most `log2 (its final value) + 1` times (a bound in the final capacity; no statement bounds that
capacity by the number of items). `changes c ds`
counts the positions at which the sequence `c, ds` changes; `capsTrace r vs` lists the capacity
vectors after each push. (Granularity: one region push. The same bound holds per `Vec` operation,
`log_growth_mvec`. Inside one slice push the model pushes the indices one by one (`pushAll`) where the crate's
`Vec::extend` reserves once for the whole slice, so the two can differ in the capacity they reach; both are `cstep`s
of the index vector, and no statement here depends on more than that.) -/
theorem log_growth (r r' : R) (vs : List V) (hc : CInv r) (h : runPushes r vs = some r') (j : Nat) :
    changes ((caps r).getD j 0) ((capsTrace r vs).map (·.getD j 0)) ≤ Nat.log2 ((caps r').getD j 0) + 1 := by
  obtain ⟨h1, h2⟩ := capsTrace_chain r r' vs hc h j
  rw [← h2]
  exact changes_log _ _ h1

omit L in
theorem push_doubles (r r' : R) (v : V) (i : I) (hc : CInv r) (hp : push r v = some (r', i)) (j : Nat)
    (hne : (caps r').getD j 0 ≠ (caps r).getD j 0) : 2 * (caps r).getD j 0 ≤ (caps r').getD j 0 :=
  (cstep_doubles (vstep_getD (G.push_step r r' v i hc hp) j) hne).1
end Growth

/-! ### `FlatStack`

`merge_capacity` is `RegionAux.mergeRegions` of the `FlatStack` instance, so `no_growth_after_merge`
covers it, index vector included. `FlatStack::reserve_items` / `reserve_regions` forward to the region
only (src/lib.rs:265-279); the index vector is pre-sized by `FlatStack::reserve` / `with_capacity`. -/
section Stack
variable {R V I : Type} {sz : Nat} [Region R V I] [RegionAux R] [Sized R] [L : LawfulSized R]

theorem hasRoom_stack_reserve [LR : LawfulReserve R] (fs : FlatStack R (Capd (VecIdx I sz))) (vs : List V) (hc : CInv fs) :
    HasRoom ((RegionAux.reserveItems fs vs).reserve vs.length) (growAll (R := FlatStack R (Capd (VecIdx I sz))) vs) := by
  obtain ⟨hcr, k, hk⟩ := hc
  have hk' := capd_reserve_caps fs.indices vs.length hk
  refine ⟨⟨L.reserveItems_cinv _ _ hcr, _, hk'⟩, ?_⟩
  rw [stack_growAll, sized_stack_caps _ hk']
  show vle (vadd (lens (RegionAux.reserveItems fs.region vs) ++ [fs.indices.a.v.length]) _) _
  rw [L.reserveItems_lens]
  exact vle_vadd_append ((L.len_lens _).trans (len_growAll _).symm) (LR.reserveItems_room fs.region vs hcr)
    ⟨le_room _ _ _, trivial⟩

/-- `FlatStack::merge_capacity(stacks)`, then copying contents that amount to the announced stacks -/
theorem no_growth_after_merge_capacity (stacks : List (FlatStack R (Capd (VecIdx I sz)))) (vs : List V)
    (fs' : FlatStack R (Capd (VecIdx I sz))) (hvs : growAll (R := FlatStack R (Capd (VecIdx I sz))) vs = lensAll stacks)
    (h : runPushes (RegionAux.mergeRegions stacks) vs = some fs') :
    caps fs' = caps (RegionAux.mergeRegions stacks : FlatStack R (Capd (VecIdx I sz))) :=
  no_growth_after_merge stacks vs fs' hvs h

/-- `reserve_items(items)` together with `reserve(items.len())`: copying `items` changes no capacity,
neither in the region nor in the index vector -/
theorem stack_no_growth_after_reserve [LR : LawfulReserve R] (fs fs' : FlatStack R (Capd (VecIdx I sz))) (vs : List V)
    (hc : CInv fs) (h : runPushes ((RegionAux.reserveItems fs vs).reserve vs.length) vs = some fs') :
    caps fs' = caps ((RegionAux.reserveItems fs vs).reserve vs.length) :=
  ((hasRoom_stack_reserve fs vs hc).no_growth (vle_refl _) h).1

omit L in
/-- the index vector alone: copies that fit its capacity never change it (`with_capacity`, `reserve`) -/
theorem stack_indices_fit (fs fs' : FlatStack R (Capd (VecIdx I sz))) (vs : List V) (k : Nat)
    (hk : fs.indices.caps = [k]) (hfit : fs.indices.a.v.length + vs.length ≤ k)
    (h : runPushes fs vs = some fs') : fs'.indices.caps = [k] := by
  induction vs generalizing fs with
  | nil =>
    cases h
    exact hk
  | cons v vs ih =>
    obtain ⟨fs1, j, hp, h⟩ := runPushes_cons_eq_some.mp h
    obtain ⟨i, _, hi, -⟩ := FlatStack.push_eq_some.mp hp
    rw [List.length_cons] at hfit
    apply ih _ _ _ h
    · rw [hi, capd_push_caps fs.indices i hk, room_fit (by omega)]
    · rw [hi, capd_push_len]
      omega

omit L in
/-- `FlatStack::with_capacity(m)` absorbs `m` indices without touching the index vector's capacity -/
theorem with_capacity_indices (m : Nat) (vs : List V) (hm : vs.length ≤ m) (fs' : FlatStack R (Capd (VecIdx I sz)))
    (h : runPushes (FlatStack.withCapacity m : FlatStack R (Capd (VecIdx I sz))) vs = some fs') :
    fs'.indices.caps = [m] :=
  stack_indices_fit _ fs' vs m rfl (by simpa [FlatStack.withCapacity, capd_withCapacity] using hm) h
end Stack

/-! ### The theorems separate `merge_regions` from `SliceRegion.mergeLegacy`, the one with defect D8 -/
section Legacy
abbrev S8 := SliceRegion (MirrorRegion Nat) (Capd (VecIdx Nat 8))
def src8 : S8 := ⟨⟨⟨[1, 2, 3]⟩, [4]⟩, {}⟩
example : runPushes (default : S8) [[1, 2, 3]] = some src8 := rfl

/-- with defect D8 (index vector not pre-sized): absorbing the source's contents reallocates the index vector,
its capacity goes from 0 to 4 -/
example : ∃ r', runPushes (SliceRegion.mergeLegacy [src8]) [[1, 2, 3]] = some r' ∧
    caps (SliceRegion.mergeLegacy [src8]) = [0] ∧ caps r' = [4] ∧
    caps r' ≠ caps (SliceRegion.mergeLegacy [src8]) :=
  ⟨_, rfl, rfl, rfl, by decide⟩
/-- it is exactly the law `merge_room` that D8 breaks -/
example : ¬ vle (lensAll [src8]) (caps (SliceRegion.mergeLegacy [src8])) := by decide
example : ∃ r', runPushes (RegionAux.mergeRegions [src8]) [[1, 2, 3]] = some r' ∧
    caps (RegionAux.mergeRegions [src8] : S8) = [3] ∧ caps r' = [3] :=
  ⟨_, rfl, rfl, rfl⟩
example : vle (lensAll [src8]) (caps (RegionAux.mergeRegions [src8] : S8)) := by decide
end Legacy

section StackReserve
/-- `FlatStack::reserve_items` alone does not pre-size the index vector (that is `FlatStack::reserve`) -/
abbrev F16 := FlatStack (OwnedRegion Nat) (Capd (VecIdx (Nat × Nat) 16))
example : ∃ fs', runPushes (RegionAux.reserveItems (default : F16) [[1, 2], [3]]) [[1, 2], [3]] = some fs' ∧
    caps (RegionAux.reserveItems (default : F16) [[1, 2], [3]]) = [3, 0] ∧ caps fs' = [3, 2] :=
  ⟨_, rfl, rfl, rfl⟩
example : ∃ fs', runPushes ((RegionAux.reserveItems (default : F16) [[1, 2], [3]]).reserve 2) [[1, 2], [3]] = some fs' ∧
    caps ((RegionAux.reserveItems (default : F16) [[1, 2], [3]]).reserve 2) = [3, 2] ∧ caps fs' = [3, 2] :=
  ⟨_, rfl, rfl, rfl⟩
end StackReserve

/-! ### Non-vacuity: a populated region and a batch to which the theorems apply -/
section NonVacuous
abbrev Names := SliceRegion Str (Capd (VecIdx (Nat × Nat) 16))
def populated : Names := ⟨⟨⟨[(0, 1), (1, 3)]⟩, [2]⟩, ⟨⟨⟨[97, 98, 99], 3⟩⟩⟩⟩
theorem populated_built : runPushes (default : Names) [[[97], [98, 99]]] = some populated := rfl
def batch : List (List (List UInt8)) := [[[100, 101], []], [], [[102]]]

example : runPushes (default : Names) [[[97], [98, 99]]] = some populated := rfl
example : CInv populated := ⟨⟨2, rfl⟩, trivial⟩
example : ∃ r', runPushes (RegionAux.reserveItems populated batch) batch = some r' ∧
    lens (RegionAux.reserveItems populated batch) = [2, 3] ∧ lens r' = [5, 6] ∧ caps r' = [5, 6] :=
  ⟨_, rfl, rfl, by decide, by decide⟩
example (r' : Names) (h : runPushes (RegionAux.reserveItems populated batch) batch = some r') :
    caps r' = caps (RegionAux.reserveItems populated batch) :=
  no_growth_after_reserve_items populated r' batch ⟨⟨2, rfl⟩, trivial⟩ h
example : growAll (R := Names) [[[97], [98, 99]]] = lensAll [populated] :=
  growAll_of_sources [(populated, [[[97], [98, 99]]])] (List.forall_mem_singleton.mpr populated_built)
example (r' : Names) (h : runPushes (RegionAux.reserveRegions populated [populated]) [[[97], [98, 99]]] = some r') :
    caps r' = caps (RegionAux.reserveRegions populated [populated]) :=
  no_growth_after_reserve_regions populated r' [populated] _ ⟨⟨2, rfl⟩, trivial⟩
    (growAll_of_sources [(populated, [[[97], [98, 99]]])] (List.forall_mem_singleton.mpr populated_built)) h
example : ∃ r', runPushes (RegionAux.reserveRegions populated [populated]) [[[97], [98, 99]]] = some r' := ⟨_, rfl⟩
end NonVacuous

/-! ### Amortised growth, concretely: 32 pushes into an empty `Vec`, 6 capacity changes (1, 2, 4, 8, 16, 32) -/
section GrowthExample
example : (capsTrace (default : VecRegion Nat) (List.replicate 32 7)).map (·.getD 0 0) =
    [1, 2, 4, 4, 8, 8, 8, 8] ++ List.replicate 8 16 ++ List.replicate 16 32 := by decide
example : changes 0 ((capsTrace (default : VecRegion Nat) (List.replicate 32 7)).map (·.getD 0 0)) = 6 := by decide
example : Nat.log2 32 + 1 = 6 := by decide
end GrowthExample

/-! ### instance resolution finds the laws for nested types -/
section Nestings
abbrev PairIdx := Capd (VecIdx (Nat × Nat) 16)
theorem covered_slice_slice : LawfulSized (SliceRegion (SliceRegion Str PairIdx) PairIdx) ∧
    LawfulReserve (SliceRegion (SliceRegion Str PairIdx) PairIdx) ∧
    LawfulGrowth (SliceRegion (SliceRegion Str PairIdx) PairIdx) := ⟨inferInstance, inferInstance, inferInstance⟩
theorem covered_tuple : LawfulSized (TupleCons (OptionRegion Str) (TupleCons (OwnedRegion Nat) TupleNil)) ∧
    LawfulReserve (TupleCons (OptionRegion Str) (TupleCons (OwnedRegion Nat) TupleNil)) ∧
    LawfulGrowth (TupleCons (OptionRegion Str) (TupleCons (OwnedRegion Nat) TupleNil)) :=
  ⟨inferInstance, inferInstance, inferInstance⟩
theorem covered_result : LawfulSized (ResultRegion (SliceRegion (MirrorRegion Nat) (Capd (VecIdx Nat 1))) Str) ∧
    LawfulReserve (ResultRegion (SliceRegion (MirrorRegion Nat) (Capd (VecIdx Nat 1))) Str) ∧
    LawfulGrowth (ResultRegion (SliceRegion (MirrorRegion Nat) (Capd (VecIdx Nat 1))) Str) :=
  ⟨inferInstance, inferInstance, inferInstance⟩
theorem covered_stack : LawfulSized (FlatStack (SliceRegion Str PairIdx) PairIdx) ∧
    LawfulGrowth (FlatStack (SliceRegion Str PairIdx) PairIdx) := ⟨inferInstance, inferInstance⟩
theorem covered_vec : LawfulSized (SliceRegion (VecRegion (List UInt8)) (Capd (VecIdx Nat 8))) ∧
    LawfulReserve (SliceRegion (VecRegion (List UInt8)) (Capd (VecIdx Nat 8))) ∧
    LawfulGrowth (SliceRegion (VecRegion (List UInt8)) (Capd (VecIdx Nat 8))) := ⟨inferInstance, inferInstance, inferInstance⟩
end Nestings

end C17
end FC
