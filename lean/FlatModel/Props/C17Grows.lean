import FlatModel.Proofs.GrowsClear
import FlatModel.Props.C17
import FlatModel.Props.C18
/-! C17, last sentence, for regions whose set of storages is not fixed:
"Without pre-sizing, pushing n plain-data items into any non-coded region costs O(log n) allocator
calls per internal storage — never one per item."

`Props/C17.lean` (`log_growth`) proves this for `Sized` regions (a fixed list of vectors, addressed by
position). Here storages are addressed by *key* (`Proofs/Grows.lean`): `G.capAt r k` is the capacity
`heap_size` reports for the storage with key `k`, and `0` while that storage does not exist. The
theorems hold for any keyed view `G` with `GrowthLaw G P`: the structural instances (`LawfulGrows`,
`P = HeapInv.CapInv`, every uncoded constructor over every index container) and the bridge from
`Sized` (`GrowthLaw.ofSized`, `P = Sized.CInv`).

Granularity as in `log_growth`: one observation per region push; no finer trace is defined, and no
theorem here speaks of one. (The elementary operations underneath, `MVec.reserve` and `Capd.fit`, are
`cstep`s too, `reserve_cap_step` and `vstep_fit`, which is all that `changes_log` asks of a history.) -/
namespace FC
open Region C08

namespace C17
section Keyed
variable {R V I : Type} [Region R V I] [RegionAux R] {G : Grows R} {P : R → Prop}

def histK (G : Grows R) (r : R) : List V → Key → List Nat
  | [], _ => []
  | v :: vs, k => match push r v with
    | none => []
    | some (r', _) => G.capAt r' k :: histK G r' vs k

theorem histK_chain (L : GrowthLaw G P) (r r' : R) (vs : List V) (h : P r) (hp : runPushes r vs = some r')
    (k : Key) (hk : G.tracked k = true) :
    Chain (G.capAt r k) (histK G r vs k) ∧ (histK G r vs k).getLastD (G.capAt r k) = G.capAt r' k := by
  induction vs generalizing r with
  | nil => cases hp; exact ⟨trivial, rfl⟩
  | cons v vs ih =>
    obtain ⟨r1, i, h1, h2⟩ := runPushes_cons_eq_some.mp hp
    obtain ⟨g1, g2⟩ := ih r1 (L.inv_push r r1 v i h h1) h2
    simp only [histK, h1]
    exact ⟨⟨L.push_step r r1 v i h h1 k hk, g1⟩, List.getLastD_cons.trans g2⟩

/-- amortised doubling in its sharpest form: every change adds a binary digit to the capacity it started from -/
theorem changes_add_bits_keyed (L : GrowthLaw G P) (r r' : R) (vs : List V) (h : P r) (hp : runPushes r vs = some r')
    (k : Key) (hk : G.tracked k = true) :
    changes (G.capAt r k) (histK G r vs k) + bits (G.capAt r k) ≤ bits (G.capAt r' k) := by
  obtain ⟨h1, h2⟩ := histK_chain L r r' vs h hp k hk
  rw [← h2]
  exact changes_add_bits _ _ h1

/-- **C17, without pre-sizing, per storage** (`log_growth` for regions whose storages appear over
time): along any batch of pushes from any state satisfying the invariant, the capacity of the storage
with a tracked key `k` changes at most `log2 (its final capacity) + 1` times. For a storage that does not exist
in `r` the history starts at `0` (`appears_from_zero`), so its first allocation is counted. -/
theorem log_growth_keyed (L : GrowthLaw G P) (r r' : R) (vs : List V) (h : P r) (hp : runPushes r vs = some r')
    (k : Key) (hk : G.tracked k = true) :
    changes (G.capAt r k) (histK G r vs k) ≤ Nat.log2 (G.capAt r' k) + 1 :=
  Nat.le_trans (Nat.le_of_add_right_le (changes_add_bits_keyed L r r' vs h hp k hk)) (bits_le _)

theorem appears_from_zero (L : GrowthLaw G P) (r : R) (k : Key) (hk : k ∉ G.keys r) : G.capAt r k = 0 :=
  L.capAt_notin r k hk

theorem push_doubles_keyed (L : GrowthLaw G P) (r r' : R) (v : V) (i : I) (h : P r) (hp : push r v = some (r', i))
    (k : Key) (hk : G.tracked k = true) (hne : G.capAt r' k ≠ G.capAt r k) :
    2 * G.capAt r k ≤ G.capAt r' k ∧ 1 ≤ G.capAt r' k :=
  cstep_doubles (L.push_step r r' v i h hp k hk) hne

/-- storages never disappear: the old keys embed, in order, into the new ones -/
theorem pushes_keys_sublist (L : GrowthLaw G P) (r r' : R) (vs : List V) (h : P r) (hp : runPushes r vs = some r') :
    (G.keys r).Sublist (G.keys r') :=
  (L.pushes (pushes_of_runPushes hp) h).2.1

theorem pushes_capAt_mono (L : GrowthLaw G P) (r r' : R) (vs : List V) (h : P r) (hp : runPushes r vs = some r')
    (k : Key) (hk : G.tracked k = true) : G.capAt r k ≤ G.capAt r' k :=
  cstep_le ((L.pushes (pushes_of_runPushes hp) h).2.2 k hk)

theorem capAt_heap (L : GrowthLaw G P) (r : R) (h : P r) (j : Nat) (hj : j < (G.keys r).length) :
    G.capAt r ((G.keys r)[j]) = (capsOf r).getD j 0 := by
  have := congrArg (fun l => l.getD j 0) (L.keys_caps r h)
  simpa [List.getD_eq_getElem?_getD, List.getElem?_map, List.getElem?_eq_getElem hj] using this

theorem keys_length (L : GrowthLaw G P) (r : R) (h : P r) : (G.keys r).length = (RegionAux.heap r).length := by
  have := congrArg List.length (L.keys_caps r h)
  simpa [capsOf, capsL] using this

/-- **C17 on `heap_size`**: for the `j`-th pair of the final report, if its key is tracked, the number of capacity
changes of that storage during the batch is at most `log2 (its reported capacity) + 1` -/
theorem log_growth_heap (L : GrowthLaw G P) (r r' : R) (vs : List V) (h : P r) (hp : runPushes r vs = some r')
    (j : Nat) (hj : j < (G.keys r').length) (hk : G.tracked ((G.keys r')[j]) = true) :
    changes (G.capAt r ((G.keys r')[j])) (histK G r vs ((G.keys r')[j])) ≤ Nat.log2 ((capsOf r').getD j 0) + 1 := by
  rw [← capAt_heap L r' (L.pushes (pushes_of_runPushes hp) h).1 j hj]
  exact log_growth_keyed L r r' vs h hp _ hk

/-- a key that is not among the final storages never had a capacity: nothing was allocated for it -/
theorem no_changes_elsewhere (L : GrowthLaw G P) (r r' : R) (vs : List V) (h : P r) (hp : runPushes r vs = some r')
    (k : Key) (hk : G.tracked k = true) (hn : k ∉ G.keys r') : changes (G.capAt r k) (histK G r vs k) = 0 := by
  have := changes_add_bits_keyed L r r' vs h hp k hk
  rw [L.capAt_notin r' k hn] at this
  exact Nat.le_zero.mp (Nat.le_of_add_right_le this)

def allocs (G : Grows R) (r : R) (vs : List V) (ks : List Key) : Nat :=
  (ks.map fun k => changes (G.capAt r k) (histK G r vs k)).sum

def trackedKeys (G : Grows R) (r : R) : List Key := (G.keys r).filter G.tracked

theorem allocs_le (L : GrowthLaw G P) (r r' : R) (vs : List V) (h : P r) (hp : runPushes r vs = some r') (ks : List Key)
    (hks : ∀ k ∈ ks, G.tracked k = true) : allocs G r vs ks ≤ (ks.map fun k => Nat.log2 (G.capAt r' k) + 1).sum :=
  sum_map_le fun k hk => log_growth_keyed L r r' vs h hp k (hks k hk)

/-- **C17, the total**: the number of capacity changes (allocator calls, at push granularity) a batch
causes, over all tracked storages of the final state — those are all that were ever allocated,
`no_changes_elsewhere` — is at most `Σ (log2 capacity + 1)` over those storages -/
theorem total_allocs_le (L : GrowthLaw G P) (r r' : R) (vs : List V) (h : P r) (hp : runPushes r vs = some r') :
    allocs G r vs (trackedKeys G r') ≤ ((trackedKeys G r').map fun k => Nat.log2 (G.capAt r' k) + 1).sum :=
  allocs_le L r r' vs h hp _ fun _ hk => (List.mem_filter.1 hk).2

/-- when every storage is tracked (no column vector inside), the bound is over the whole final
`heap_size` report: `Σ over the reported capacities c of (log2 c + 1)` -/
theorem total_allocs_le_heap (L : GrowthLaw G P) (hall : ∀ k, G.tracked k = true) (r r' : R) (vs : List V)
    (h : P r) (hp : runPushes r vs = some r') :
    allocs G r vs (G.keys r') ≤ ((capsOf r').map fun c => Nat.log2 c + 1).sum := by
  have ht : trackedKeys G r' = G.keys r' := List.filter_eq_self.2 fun k _ => hall k
  have := total_allocs_le L r r' vs h hp
  rw [ht] at this
  rw [← L.keys_caps r' (L.pushes (pushes_of_runPushes hp) h).1, List.map_map]
  exact this

theorem clear_keeps (L : GrowthLaw G P) (r : R) (h : P r) :
    G.keys (clear r) = G.keys r ∧ ∀ k, G.tracked k = true → G.capAt r k ≤ G.capAt (clear r) k :=
  ⟨L.keys_clear r h, fun k hk => cstep_le (L.clear_step r h k hk)⟩

end Keyed

section Structural
variable {R V I : Type} [Region R V I] [RegionAux R] [HeapInv R] [LawfulHeap R] [G : Grows R] [L : LawfulGrows R]

/-- **C17 (`log_growth`) for every region with `LawfulGrows`**, from any state reachable through the API, for every
tracked key -/
theorem log_growth_reach (r r' : R) (vs : List V) (hr : Reach r) (hp : runPushes r vs = some r')
    (k : Key) (hk : Grows.tracked R k = true) :
    changes (Grows.capAt r k) (histK G r vs k) ≤ Nat.log2 (Grows.capAt r' k) + 1 :=
  log_growth_keyed L.law r r' vs (C18.reach_capInv r hr) hp k hk

end Structural

section ClearExactly
variable {R V I : Type} [Region R V I] [RegionAux R] [HeapInv R] [LawfulHeap R] [G : Grows R] [L : LawfulGrows R]
  [C : ClearExact R]

inductive Filled : R → Prop
  | default : Filled (default : R)
  | push (r r' : R) (v : V) (i : I) : Filled r → Region.push r v = some (r', i) → Filled r'
  | clear (r : R) : Filled r → Filled (Region.clear r)

omit [HeapInv R] [LawfulHeap R] G L C in
theorem Filled.reach {r : R} (h : Filled r) : Reach r := by
  induction h with
  | default => exact Reach.default
  | push r r' v i _ hp ih => exact Reach.push r r' v i ih hp
  | clear r _ ih => exact Reach.clear r ih

omit [RegionAux R] [HeapInv R] [LawfulHeap R] G L C in
theorem Filled.pushes {r r' : R} (vs : List V) (h : Filled r) (hp : runPushes r vs = some r') : Filled r' :=
  (pushes_of_runPushes hp).closed Filled.push h

omit G L in
theorem filled_anch (r : R) (h : Filled r) : HeapInv.CapInv r ∧ C.Anch r := by
  induction h with
  | default => exact ⟨LawfulHeap.cap_default, C.anch_default⟩
  | push r r' v i _ hp ih => exact ⟨LawfulHeap.cap_push r r' v i ih.1 hp, C.anch_push r r' v i ih.1 ih.2 hp⟩
  | clear r _ ih => exact ⟨LawfulHeap.cap_clear r ih.1, C.anch_clear r ih.1 ih.2⟩

/-- **`clear` keeps the allocations, exactly**: in every state built by `default`, `push`, `clear`, a
`clear` leaves the set of storages and every reported capacity as they were (the column vector
included): `heap_size` reports the same capacities before and after -/
theorem clear_keeps_exactly (r : R) (h : Filled r) :
    Grows.keys (clear r) = Grows.keys r ∧ (∀ k, Grows.capAt (clear r) k = Grows.capAt r k) ∧
    (RegionAux.heap (clear r)).map (·.2) = (RegionAux.heap r).map (·.2) := by
  obtain ⟨hc, ha⟩ := filled_anch r h
  have he := C.clear_exact r hc ha
  exact ⟨L.law.keys_clear r hc, L.law.clear_capAt r hc he, he⟩

/-- `HeapInv.CapInv` alone does not give exactness (hence `ClearExact.Anch`): a `ConsecPairs` over
`IndexList` whose only offset sits in the `u64` vector satisfies `CapInv`, and `clear` allocates the
`u32` vector for the leading `0`. No state built by `default`, `push`, `clear` looks like this. -/
theorem clear_exact_needs_anchor :
    ∃ r : ConsecPairs (OwnedRegion UInt8) (Capd IndexList), HeapInv.CapInv r ∧
      (RegionAux.heap r).map (·.2) = [0, 8, 0] ∧ (RegionAux.heap (clear r)).map (·.2) = [4, 8, 0] :=
  ⟨⟨⟨⟨[], 0⟩⟩, ⟨⟨[], [2 ^ 32]⟩, [0, 1]⟩, 2 ^ 32⟩,
   ⟨Nat.le_refl 0, List.Forall₂.cons (Nat.le_refl _) (List.Forall₂.cons (Nat.le_refl _) List.Forall₂.nil), by decide⟩,
   by decide, by decide⟩
end ClearExactly

/-! ### the entry that is not tracked: the column vector of `ColumnsRegion`

`Model/Ops.lean` reports the `Vec<R>` of columns as `(len * size_of::<R>(), len * size_of::<R>())`: its
capacity is not modelled. Read as a capacity, that entry grows by one column at a time, so the
doubling law is *false* for it; it is the only such entry (`columnsTracked`). -/
section ColumnVector
abbrev Cols3 := ColumnsRegion (OwnedRegion Nat) (Nat × Nat) (Capd (VecIdx Nat 8))

/-- two columns, then a row with three values: the reported capacity of the column vector goes from
`2 * 24` to `3 * 24` bytes (24 is `RegionAux.selfSize`, the `size_of` of an `OwnedRegion`) — neither unchanged
nor doubled -/
theorem columnsVec_not_cstep : ∃ (r r' : Cols3) (row : List (List Nat)) (i : Nat),
    runPushes (default : Cols3) [[[1], [2]]] = some r ∧ push r row = some (r', i) ∧
    Grows.capAt r [0] = 48 ∧ Grows.capAt r' [0] = 72 ∧ (capsOf r).head? = some 48 ∧ (capsOf r').head? = some 72 ∧
    ¬ cstep (Grows.capAt r [0]) (Grows.capAt r' [0]) :=
  ⟨_, _, [[1], [2], [3]], _, rfl, rfl, rfl, rfl, rfl, rfl, fun h => absurd (cstep_doubles h (by decide)).1 (by decide)⟩

/-- hence the growth law with *every* key tracked is false for `ColumnsRegion` -/
theorem columns_all_tracked_false :
    ¬ GrowthLaw ({ (inferInstance : Grows Cols3) with tracked := fun _ => true }) (HeapInv.CapInv (R := Cols3)) := by
  intro L
  obtain ⟨r, r', row, i, h0, hp, _, _, _, _, hn⟩ := columnsVec_not_cstep
  have hc : HeapInv.CapInv r := C18.reach_capInv r (C18.reach_pushes _ r _ Reach.default h0)
  exact hn (L.push_step r r' row i hc hp [0] rfl)

section
variable {R V I O : Type} [Region R V I] [IdxCont O Nat] [RegionAux R] [IdxAux O] [ElemSize I]
  [HeapInv R] [IdxHeapInv O] [LawfulHeap R] [LawfulIdxHeap O] [Grows R] [LawfulGrows R] [IdxGrows O]

omit [LawfulIdxHeap O] [LawfulGrows R] [IdxGrows O] [HeapInv R] [LawfulHeap R] [IdxHeapInv O] in
/-- what is true of that entry: it is `size_of::<R>()` times the number of columns, which a push never
decreases and raises to the width of the row -/
theorem columnsVec_partial (r r' : ColumnsRegion R I O) (row : List V) (i : Nat) (hp : push r row = some (r', i)) :
    Grows.capAt r [0] = r.cols.length * RegionAux.selfSize R ∧
    Grows.capAt r' [0] = r'.cols.length * RegionAux.selfSize R ∧
    r'.cols.length = max r.cols.length row.length := by
  refine ⟨rfl, rfl, ?_⟩
  rw [← (columns_pushes hp).1.length_eq]
  exact length_padCols _ _

omit [LawfulIdxHeap O] [LawfulGrows R] [IdxGrows O] [HeapInv R] [LawfulHeap R] [IdxHeapInv O] in
/-- … so along a batch that entry changes at most once per *added column* (never once per row): the
number of its changes is at most the number of columns gained. (In the crate the column vector is a
`Vec<R>` filled by `push`, to which `log_growth_mvec` applies.) -/
theorem columnsVec_changes_le (r r' : ColumnsRegion R I O) (rows : List (List V)) (hp : runPushes r rows = some r') :
    r.cols.length ≤ r'.cols.length ∧
    changes (Grows.capAt r [0]) (histK (inferInstance : Grows (ColumnsRegion R I O)) r rows [0]) ≤ r'.cols.length - r.cols.length := by
  induction rows generalizing r with
  | nil => cases hp; exact ⟨Nat.le_refl _, Nat.zero_le _⟩
  | cons row rows ih =>
    obtain ⟨r1, i, h1, h2⟩ := runPushes_cons_eq_some.mp hp
    obtain ⟨g1, g2⟩ := ih r1 h2
    obtain ⟨e0, e1, e2⟩ := columnsVec_partial r r1 row i h1
    simp only [histK, h1, changes]
    have hle : r.cols.length ≤ r1.cols.length := by omega
    refine ⟨Nat.le_trans hle g1, ?_⟩
    by_cases hc : r1.cols.length = r.cols.length
    · have : Grows.capAt r1 [0] = Grows.capAt r [0] := by rw [e0, e1, hc]
      rw [if_pos this]
      omega
    · have : (if Grows.capAt r1 [0] = Grows.capAt r [0] then 0 else 1) ≤ 1 := by split <;> omega
      omega
end
end ColumnVector

theorem first_allocation (n : Nat) (hn : 1 ≤ n) : grow 0 n = n ∧ cstep 0 (grow 0 n) ∧ changes 0 [grow 0 n] = 1 := by
  have h : grow 0 n = n := by unfold grow; omega
  refine ⟨h, cstep_zero _, ?_⟩
  rw [h, changes, changes, if_neg (Nat.ne_of_gt hn)]

end C17
end FC
