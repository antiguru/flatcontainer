import FlatModel.Proofs.HuffCreate
/-! C06 (optimality part): for valid statistics the code built by `Huffman::create_from` is a canonical prefix code,
complete when there are at least two symbols, of minimal weighted length among all prefix codes (with at least one bit
per symbol). -/
namespace FC.C06
open FC FC.Huff
open FC.Huff.Opt (PrefixFree)

theorem lookup_some_iff (counts : List (Nat × Int)) (hv : Valid counts) (s : Nat) :
    ((createFrom counts).lookup s).isSome ↔ s ∈ counts.map Prod.fst := by
  by_cases hne : counts = []
  · subst hne
    simp [createFrom_nil, Code.lookup]
  · obtain ⟨t, hT, henc⟩ := createFrom_exists_tree hv hne
    have hk := encode_keys_perm hT henc
    rw [← hk.mem_iff]
    unfold Code.lookup
    rw [Option.isSome_map, List.find?_isSome]
    simp only [List.mem_map, beq_iff_eq]

/-- a lone symbol gets the one-bit code `0` (repair D4) -/
theorem single_symbol_one_bit (s : Nat) (c : Int) : (createFrom [(s, c)]).lookup s = some (1, 0) := by
  simp [Code.lookup, createFrom_single]

theorem canonical_is_prefix_free (counts : List (Nat × Int)) (hv : Valid counts) :
    PrefixFree (codeBits (createFrom counts).encode) := by
  obtain ⟨M, L, henc, hpre, -⟩ := createFrom_pre hv
  rw [henc]
  exact assign_prefixFree M L hpre

theorem code_lt (counts : List (Nat × Int)) (hv : Valid counts) :
    ∀ e ∈ (createFrom counts).encode, e.2.2 < 2 ^ e.2.1 := by
  obtain ⟨M, L, henc, hpre, -⟩ := createFrom_pre hv
  rw [henc]
  exact assign_code_lt M L hpre

theorem lengths_pos (counts : List (Nat × Int)) (hv : Valid counts) (h2 : 2 ≤ counts.length) :
    ∀ p ∈ counts, 1 ≤ lenH counts p.1 := by
  obtain ⟨t, hT, henc⟩ := createFrom_exists_tree hv (by rintro rfl; simp at h2)
  intro p hp
  exact finalLevels_pos t _ ((lenH_perm hv hT henc).mem_iff.mp
    (List.mem_map_of_mem (f := fun p => (lenH counts p.1, p.1)) hp))

/-- **completeness**: with at least two symbols the code lengths have Kraft sum exactly one
(`Σ 2^(M − len s) = 2^M` for every bound `M` on the lengths) -/
theorem lengths_kraft_eq_one (counts : List (Nat × Int)) (hv : Valid counts) (h2 : 2 ≤ counts.length)
    (M : Nat) (hM : ∀ p ∈ counts, lenH counts p.1 ≤ M) :
    (counts.map fun p => 2 ^ (M - lenH counts p.1)).sum = 2 ^ M := by
  obtain ⟨t, hT, henc⟩ := createFrom_exists_tree hv (by rintro rfl; simp at h2)
  have hp := lenH_perm hv hT henc
  have hM' : ∀ q ∈ finalLevels t, q.1 ≤ M := fun q hq => by
    obtain ⟨p, hp, rfl⟩ := List.mem_map.mp (hp.mem_iff.mpr hq)
    exact hM p hp
  rw [← finalLevels_kraft (by rw [hT.leaves_length]; exact h2) M hM', ← lsum_perm hp, lsum, List.map_map]
  rfl

theorem optimal_nat (counts : List (Nat × Int)) (hv : Valid counts) (g : Nat → List Bool)
    (hpf : PrefixFree (counts.map fun p => g p.1)) (hlen : ∀ p ∈ counts, 1 ≤ (g p.1).length) :
    (counts.map fun p => p.2.toNat * lenH counts p.1).sum ≤ (counts.map fun p => p.2.toNat * (g p.1).length).sum := by
  match counts, hv, hpf, hlen with
  | [], _, _, _ => simp
  | [(s, c)], _, _, hlen =>
    have h1 : lenH [(s, c)] s = 1 := by unfold lenH; rw [single_symbol_one_bit]
    have := hlen (s, c) (by simp)
    simp only [List.map_cons, List.map_nil, List.sum_cons, List.sum_nil, h1]
    have := Nat.mul_le_mul_left c.toNat this
    omega
  | p :: q :: rest, hv, hpf, _ =>
    obtain ⟨t, hT, henc⟩ := createFrom_exists_tree hv (by simp)
    rw [sum_lenH_eq_cost hv hT henc (by simp)]
    have hF := Opt.feasible_of_prefixFree (p :: q :: rest) (fun p => p.2.toNat) (fun p => g p.1)
      (((p :: q :: rest).map fun p => (g p.1).length).sum) hpf
      (le_sum_of_mem (fun p : Nat × Int => (g p.1).length) _)
    have := Opt.optimal (hT.leaves_huffRel hv) _ _ (List.Perm.of_eq (by rw [List.map_map]; rfl)) hF
    simpa [Opt.cost, List.map_map, Function.comp_def] using this

/-- **optimality** (C06): for valid `counts`, every competing prefix code `g` on the symbols of `counts` with at
least one bit per symbol costs at least as much as the code built by `create_from`:
`Σ count(s) · len_H(s) ≤ Σ count(s) · |g s|`, where `len_H s` is the `bits` component of `lookup s` -/
theorem optimal (counts : List (Nat × Int)) (hv : Valid counts) (g : Nat → List Bool)
    (hpf : PrefixFree (counts.map fun p => g p.1)) (hlen : ∀ p ∈ counts, 1 ≤ (g p.1).length) :
    (counts.map fun p => p.2 * (lenH counts p.1 : Int)).sum ≤ (counts.map fun p => p.2 * ((g p.1).length : Int)).sum := by
  rw [sum_int_cast counts hv.pos (lenH counts), sum_int_cast counts hv.pos (fun s => (g s).length)]
  exact_mod_cast optimal_nat counts hv g hpf hlen

theorem optimal' (counts : List (Nat × Int)) (hv : Valid counts) (g : Nat → List Bool)
    (hpf : ∀ s ∈ counts.map Prod.fst, ∀ s' ∈ counts.map Prod.fst, s ≠ s' → ¬ g s <+: g s')
    (hlen : ∀ s ∈ counts.map Prod.fst, 1 ≤ (g s).length) :
    (counts.map fun p => p.2 * (lenH counts p.1 : Int)).sum ≤ (counts.map fun p => p.2 * ((g p.1).length : Int)).sum := by
  refine optimal counts hv g ?_ (fun p hp => hlen p.1 (List.mem_map_of_mem hp))
  unfold PrefixFree
  rw [List.pairwise_map]
  refine (List.Pairwise.and_mem.mp hv.keys_ne).imp ?_
  rintro a b ⟨ha, hb, hab⟩
  exact ⟨hpf _ (List.mem_map_of_mem ha) _ (List.mem_map_of_mem hb) hab,
    hpf _ (List.mem_map_of_mem hb) _ (List.mem_map_of_mem ha) (Ne.symm hab)⟩

/-! non-vacuity: the hypotheses are satisfiable, and what `createFrom` returns on tiny inputs -/

example : Valid [(1, 1), (2, 1), (3, 2)] := ⟨by decide, by decide⟩
example : (createFrom [(1, 1), (2, 1), (3, 2)]).encode = [(3, 1, 0), (2, 2, 2), (1, 2, 3)] := by decide
example : codeBits (createFrom [(1, 1), (2, 1), (3, 2)]).encode = [[false], [true, false], [true, true]] := by decide
example : (createFrom [(1, 5), (2, 1), (3, 1), (4, 2), (7, 3)]).encode
    = [(1, 1, 0), (7, 2, 2), (4, 3, 6), (3, 4, 14), (2, 4, 15)] := by decide
example : (createFrom [(9, 4)]).encode = [(9, 1, 0)] := by decide
example : lenH [(1, 1), (2, 1), (3, 2)] 3 = 1 ∧ lenH [(1, 1), (2, 1), (3, 2)] 1 = 2 ∧ lenH [(1, 1), (2, 1), (3, 2)] 5 = 0 := by
  decide
example : let g : Nat → List Bool := fun s => if s = 3 then [false] else if s = 2 then [true, true] else [true, false, true]
    PrefixFree ([(1, (1 : Int)), (2, 1), (3, 2)].map fun p => g p.1) ∧ ∀ p ∈ [(1, (1 : Int)), (2, 1), (3, 2)], 1 ≤ (g p.1).length := by
  intro g; decide
/-- the trace of `buildTree` on that input: ties are broken towards the larger node -/
example : buildTree 3 [(-1, Node.leaf 1), (-1, Node.leaf 2), (-2, Node.leaf 3)] #[]
    = #[Node.leaf 2, Node.leaf 1, Node.fork 0 1, Node.leaf 3, Node.fork 2 3] := by decide

end FC.C06
