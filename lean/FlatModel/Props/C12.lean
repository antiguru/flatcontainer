import FlatModel.Props.C11
import FlatModel.Proofs.Stack
/-! C12 for columns regions (`C12.count` and `C12.kth`, the half for `ConsecutiveIndexPairs`, are in
Props/C11.lean), and `count_merge`: a merged `ConsecutiveIndexPairs` region counts from 0. -/
namespace FC
open Region

theorem listRel_length {α : Type} (s : α → α → Prop) : ∀ (a b : List α), listRel s a b → a.length = b.length
  | [], [], _ => rfl
  | [], _ :: _, h => by simp [listRel] at h
  | _ :: _, [], h => by simp [listRel] at h
  | _ :: as, _ :: bs, h => by
    simp only [listRel] at h
    simp [listRel_length s as bs h.2]

namespace C12
section
variable {R V I O : Type} [Region R V I] [IdxCont O Nat] [LawfulRegion R] [LawfulIdxCont O]

/-- rows pushed since creation / clear -/
def rows (r : ColumnsRegion R I O) : Nat := count r.indices

/-- **C12 (columns)**: under the invariant a row gets the current `rows` as its index and advances it by one;
`rows` is 0 at creation and after `clear` (`rows_default`, `rows_clear`) -/
theorem columns_kth (r r' : ColumnsRegion R I O) (row : List V) (k : Nat) (hi : Inv r)
    (hp : push r row = some (r', k)) : k = rows r ∧ rows r' = rows r + 1 := by
  obtain ⟨is, _, h2⟩ := ColumnsRegion.push_eq_some.mp hp
  exact kth r.indices r'.indices is k hi.1 h2

/-- **C12 (columns)**: the row read at the returned index has exactly the pushed row's length and
cells, however many columns earlier rows created; empty rows are rows too -/
theorem columns_row_exact (r : ColumnsRegion R I O) (row : List V) (hi : Inv r) (ha : Accepts r row) :
    ∃ r' k, push r row = some (r', k) ∧ ∃ row', index r' k = some row' ∧ row'.length = row.length ∧
      listRel (same (R := R)) row' row := by
  obtain ⟨r', k, hp, row', hx, hs⟩ := LawfulRegion.push_ok r row hi ha
  exact ⟨r', k, hp, row', hx, listRel_length _ _ _ hs, hs⟩

omit [LawfulRegion R] in
theorem rows_default : rows (Region.default : ColumnsRegion R I O) = 0 := count_default
omit [LawfulRegion R] in
theorem rows_clear (r : ColumnsRegion R I O) : rows (clear r) = 0 := count_clear r.indices
end

section
variable {R V O : Type} [Region R V (Nat × Nat)] [DenseRegion R] [IdxCont O Nat] [RegionAux R] [IdxAux O]
  [LawfulIdxCont O]
/-- a region made by `merge_regions` starts counting at 0, whatever it was merged from -/
theorem count_merge (rs : List (ConsecPairs R O)) : count (RegionAux.mergeRegions rs) = 0 :=
  count_default (R := R) (O := O)
end
end C12
end FC
