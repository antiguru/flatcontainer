import FlatModel.Props.C06Opt
import FlatModel.Props.C06Bits
/-! C06, capstone: for valid statistics and a code of depth ≤ 57, the code `create_from` builds satisfies the
hypotheses of the bit-level encoder/decoder theorems, so the first item pushed into a freshly merged Huffman
container reads back (later pushes: the invariant, `merge_inv` and `roundtrip` in Props/C06Region.lean). -/
namespace FC.C06
open FC.Huff

/-- **C06**: for valid statistics whose code stays within the encoder's width (at most 57 bits: the
hypothesis `hdepth`, which no theorem derives from the counts), the code `create_from` builds is a good code:
bounded, canonical code values below `2^l`, and pairwise prefix-incomparable code words. -/
theorem createFrom_good (counts : List (Nat × Int)) (hv : Valid counts)
    (hdepth : ∀ x ∈ (createFrom counts).encode, x.2.1 ≤ 57) : GoodCode (createFrom counts) := by
  refine ⟨fun x hx => ⟨encode_len_pos hv x hx, hdepth x hx, code_lt counts hv x hx⟩, ?_⟩
  have hp := canonical_is_prefix_free counts hv
  simp only [Opt.PrefixFree, codeBits, List.pairwise_map] at hp
  refine hp.imp ?_
  intro a b hab
  simpa only [Incomp, canonBits_eq_bitsOfCode] using hab

/-- **C06 (round trip after merge)**: with such statistics, the first item pushed into the container built by
`merge_regions`, if accepted, reads back, and it occupies the bit range from 0 to the sum of its symbols' code lengths -/
theorem roundtrip_merged (srcs : List Container)
    (hv : Valid (srcs.foldl (fun acc h => mergeStats acc h.stats) []))
    (hdepth : ∀ x ∈ (mergedCode srcs).encode, 1 ≤ x.2.1 ∧ x.2.1 ≤ 57)
    (item : List Nat) (h' : Container) (i : Nat × Nat)
    (hp : Container.push (Container.merge srcs) item = some (h', i)) :
    Container.index h' i = some item ∧ i = (0, itemBits (mergedCode srcs) item) := by
  have hg : GoodCode (mergedCode srcs) := createFrom_good _ hv fun x hx => (hdepth x hx).2
  obtain ⟨h1, h2⟩ := createFrom_ok _ hg
  exact roundtrip_after_merge srcs item h' i h1 h2 hp

end FC.C06
