import FlatModel.Model.FlatStack
import FlatModel.Props.C01
/-! C03: FlatStack is a faithful append-only sequence for every lawful region and every lawful index container. -/
namespace FC
open Region

theorem getElem?_append_singleton_eq_some {α : Type} {l : List α} {x a : α} {k : Nat} :
    (l ++ [x])[k]? = some a ↔ l[k]? = some a ∨ (k = l.length ∧ x = a) := by
  rcases Nat.lt_trichotomy k l.length with h | h | h
  · rw [List.getElem?_append_left h]
    exact ⟨Or.inl, fun h' => h'.elim id fun h' => by omega⟩
  · subst h
    simp
  · rw [List.getElem?_eq_none (by simp; omega), List.getElem?_eq_none (Nat.le_of_lt h)]
    exact ⟨nofun, fun h' => h'.elim nofun fun h' => by omega⟩

section
variable {R V I S : Type} [Region R V I] [IdxCont S I] [LawfulRegion R] [LawfulIdxCont S]

/-- the stack represents the list `spec` of copied values: the invariant of the stack as a region
(Model/Ops.lean) with, position by position, what the stored index reads -/
def FlatStack.Rep (fs : FlatStack R S) (spec : List V) : Prop :=
  Inv fs.region ∧ IdxCont.Inv fs.indices ∧ (IdxCont.iter fs.indices).length = spec.length ∧
  ∀ (k : Nat) (i : I), (IdxCont.iter fs.indices)[k]? = some i →
    Valid fs.region i ∧ ∃ u w, index fs.region i = some u ∧ spec[k]? = some w ∧ same (R := R) u w

namespace C03

theorem rep_default : (FlatStack.default : FlatStack R S).Rep ([] : List V) := by
  refine ⟨LawfulRegion.inv_default, LawfulIdxCont.inv_default, ?_, ?_⟩
  · simp [FlatStack.default, LawfulIdxCont.iter_default]
  · intro k i h
    simp [FlatStack.default, LawfulIdxCont.iter_default] at h

theorem rep_copy_of_some (fs fs' : FlatStack R S) (spec : List V) (v : V) (h : fs.Rep spec)
    (hc : fs.copy v = some fs') : fs'.Rep (spec ++ [v]) := by
  obtain ⟨hin, hci, hlen, hall⟩ := h
  obtain ⟨⟨r', i⟩, hp, ⟨⟩⟩ := Option.map_eq_some_iff.mp ((FlatStack.copy_eq fs v).symm.trans hc)
  obtain ⟨hin', hvi, ⟨u, hu, hs⟩, hext⟩ := LawfulRegion.push_post hp hin
  have hit := LawfulIdxCont.iter_push fs.indices i hci
  refine ⟨hin', LawfulIdxCont.inv_push _ _ hci, by simp [hit, hlen], fun k j hk => ?_⟩
  rcases getElem?_append_singleton_eq_some.mp (hit ▸ hk) with hk | ⟨rfl, rfl⟩
  · obtain ⟨hv, u0, w0, h1, h2, h3⟩ := hall k j hk
    exact ⟨(hext j hv).1, u0, w0, (hext j hv).2.trans h1, getElem?_append_singleton_eq_some.mpr (Or.inl h2), h3⟩
  · exact ⟨hvi, u, v, hu, by simp [hlen], hs⟩

theorem rep_copy (fs : FlatStack R S) (spec : List V) (v : V) (h : fs.Rep spec) (ha : Accepts fs.region v) :
    ∃ fs', fs.copy v = some fs' ∧ fs'.Rep (spec ++ [v]) := by
  obtain ⟨r', i, hp, -⟩ := LawfulRegion.push_ok fs.region v h.1 ha
  have hc : fs.copy v = some ⟨IdxCont.push fs.indices i, r'⟩ := by rw [FlatStack.copy_eq, hp]; rfl
  exact ⟨_, hc, rep_copy_of_some fs _ spec v h hc⟩

/-- **C03**: what a stack representing `spec` answers -/
theorem observers (fs : FlatStack R S) (spec : List V) (h : fs.Rep spec) :
    fs.len = spec.length ∧ fs.isEmpty = spec.isEmpty ∧
    (∀ k, spec.length ≤ k → fs.get k = none) ∧
    (∀ k w, spec[k]? = some w → ∃ u, fs.get k = some u ∧ same (R := R) u w) ∧
    fs.iter.length = spec.length := by
  obtain ⟨hin, hc, hlen, hall⟩ := h
  refine ⟨?_, ?_, ?_, ?_, ?_⟩
  · rw [FlatStack.len, LawfulIdxCont.len_eq _ hc, hlen]
  · rw [FlatStack.isEmpty, LawfulIdxCont.isEmpty_eq _ hc]
    cases h1 : IdxCont.iter fs.indices <;> cases h2 : spec <;> simp_all
  · intro k hk
    simp only [FlatStack.get, LawfulIdxCont.index_eq _ k hc]
    rw [List.getElem?_eq_none (by omega)]
  · intro k w hw
    have hk : k < (IdxCont.iter fs.indices).length := by
      rw [hlen]
      exact (List.getElem?_eq_some_iff.mp hw).1
    have hi : (IdxCont.iter fs.indices)[k]? = some (IdxCont.iter fs.indices)[k] := List.getElem?_eq_getElem hk
    obtain ⟨_, u, w', h1, h2, h3⟩ := hall k _ hi
    cases hw.symm.trans h2
    exact ⟨u, by simp only [FlatStack.get, LawfulIdxCont.index_eq _ k hc, hi, h1], h3⟩
  · simp [FlatStack.iter, hlen]

/-- a stack that represents `spec` represents `spec ++ vs` after a successful `extend vs` (the model of
`Extend::extend`, defined as repeated `copy`) -/
theorem rep_extend (fs fs' : FlatStack R S) (spec vs : List V) (h : fs.Rep spec)
    (he : fs.extend vs = some fs') : fs'.Rep (spec ++ vs) := by
  induction vs generalizing fs spec with
  | nil =>
    cases he
    simpa using h
  | cons v vs ih =>
    simp only [FlatStack.extend] at he
    cases hc : fs.copy v with
    | none => simp [hc] at he
    | some fs1 =>
      simp only [hc] at he
      simpa using ih fs1 (spec ++ [v]) (rep_copy_of_some fs fs1 spec v h hc) he

theorem rep_fromIter (fs' : FlatStack R S) (vs : List V)
    (he : FlatStack.fromIter (R := R) (S := S) vs = some fs') : fs'.Rep vs := by
  simpa using rep_extend (FlatStack.default : FlatStack R S) fs' [] vs rep_default he

theorem rep_clear (fs : FlatStack R S) (spec : List V) (h : fs.Rep spec) : fs.clear.Rep ([] : List V) := by
  refine ⟨LawfulRegion.clear_inv _ h.1, LawfulIdxCont.inv_clear _, ?_, ?_⟩
  · simp [FlatStack.clear, LawfulIdxCont.iter_clear]
  · intro k i hk
    simp [FlatStack.clear, LawfulIdxCont.iter_clear] at hk

/-- **C03 (iteration)**: iterating a stack that represents `spec` yields, in order, one item per
copied value, each `same` as that value — never a panic, never another element. `FlatStack.iter` is
a pure function of the stack: the model has no iterator state, the statement is about this one list
and its length. -/
theorem iter_spec (fs : FlatStack R S) (spec : List V) (h : fs.Rep spec) :
    ∃ us : List V, fs.iter = us.map some ∧ us.length = spec.length ∧
      ∀ (k : Nat) (u : V), us[k]? = some u → ∃ w, spec[k]? = some w ∧ same (R := R) u w := by
  obtain ⟨hin, hc, hlen, hall⟩ := h
  obtain ⟨us, hus⟩ := readAll_some_of_valid fs.region (IdxCont.iter fs.indices) hin fun j hj => by
    obtain ⟨k, hk, rfl⟩ := List.getElem_of_mem hj
    exact (hall k _ (List.getElem?_eq_getElem hk)).1
  have hmap : fs.iter = us.map some := readAll_eq_some_iff.mp hus
  have hlen' : us.length = (IdxCont.iter fs.indices).length := by
    simpa [FlatStack.iter] using (congrArg List.length hmap).symm
  refine ⟨us, hmap, hlen'.trans hlen, fun k u hk => ?_⟩
  have hk' : k < (IdxCont.iter fs.indices).length := hlen' ▸ (List.getElem?_eq_some_iff.mp hk).1
  obtain ⟨_, u', w, hu', hw, hs⟩ := hall k _ (List.getElem?_eq_getElem hk')
  -- position `k` of the iteration is the read of the `k`-th index
  have hpos := congrArg (·[k]?) hmap
  simp only [FlatStack.iter, List.getElem?_map, List.getElem?_eq_getElem hk', Option.map_some, hu', hk] at hpos
  cases hpos
  exact ⟨w, hw, hs⟩
end C03
end
end FC
