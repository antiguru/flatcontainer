import FlatModel.Model.ItemOps
import FlatModel.Props.C14b
import FlatModel.Props.C15b
/-! C14, part 3: the bridge between the two ways the model driver can answer `item … owned`,
`item … cloneonto <target>` and `cmp …`.

The driver (Driver/Banks.lean, `Extra.withItems`, `Extra.withItemCmp`) answers through `ItemOps` — the read
item the region type issues and the `IntoOwned` impl of that item type, nested as the Rust impls nest and
built from the definitions of Model/Items2.lean (`OptionItem.cloneOnto`, `ResultItem.cloneOnto`,
`TupleItem.cloneOnto`, `SliceItem.cloneOnto`, `Wrapped.cloneOnto`, `Huff.Container.item?`, …). The other
way to answer is `Region.index`. `LawfulItemOps` is the law that makes both coincide, one instance per
`ItemOps` instance (instance resolution finds it for every catalogued composition,
Generated/CoveredItems.lean); `cloneOntoAt_eq_index` / `intoOwnedAt_eq_index` are the bridge: at a valid index
of a consistent region, for either representation (region-backed, borrowed from the owned value) and any
target, the item model's answer is `index r i`.

Two classes carry the laws `clone_onto = into_owned` and `into_owned ∘ borrow_as = id`. `ItemLaws X O`
(Proofs/Items2.lean, C14b) is indexed by the *item* type and bundles the operations with the laws: it states C14
for nested items with no region in sight. `LawfulItemOps R` (here) is indexed by the *region* type, speaks of the
operations of `ItemOps R` — the ones the driver runs — and adds `item_index`, which ties the item to `index`.
Both families are built from the same compositional lemmas (`OptionItem.cloneOnto_eq`, …); no theorem connects
the two classes. For the Huffman item they even use different total operations on `WrappedOK`: `ItemLaws` takes
`(a.1.intoOwned).getD []` (Items2), `ItemOps` takes `WrappedOK.intoOwned`, i.e. `.get` with the `isSome` proof
(Model/ItemOps.lean, so that no default can mask a wrong `none`). Each agrees with the partial `Wrapped`
operation (`C14.wrappedOK_ops`, `WrappedOK.ops_eq'`), hence with the other.

The C15 bridge for comparisons lives here too, because `ItemCmp` belongs to Model/ItemOps.lean. -/
namespace FC
open Region

/-- the `IntoOwned` laws of the item a region type issues, tied to `Region::index` -/
class LawfulItemOps (R : Type) {V I : outParam Type} [Region R V I] {X : outParam Type} [ItemOps R X] : Prop where
  item_index : ∀ (r : R) (i : I), Inv r → Valid r i →
      (ItemOps.item? r i).map (ItemOps.intoOwned (R := R)) = index r i
  cloneOnto_eq : ∀ (x : X) (t : V), ItemOps.cloneOnto (R := R) x t = ItemOps.intoOwned (R := R) x
  intoOwned_borrowAs : ∀ v : V, ItemOps.intoOwned (R := R) (ItemOps.borrowAs (R := R) v) = v

/-- Rust's bound `R: Region<ReadItem<'a> = &'a [u8]>` on `StringRegion<R>`: the inner item is a byte slice
with the base `IntoOwned` impl -/
class BytesItem (R : Type) {I : outParam Type} [Region R (List UInt8) I] [ItemOps R (List UInt8)] : Prop where
  intoOwned_id : ∀ x : List UInt8, ItemOps.intoOwned (R := R) x = x

namespace C14
section Bridge
variable {R V I X : Type} [Region R V I] [ItemOps R X] [LawfulItemOps R]

theorem read_intoOwned (r : R) (i : I) (b : Bool) (hi : Inv r) (hv : Valid r i) :
    (ItemOps.read r i b).map (ItemOps.intoOwned (R := R)) = index r i := by
  rw [← LawfulItemOps.item_index r i hi hv, ItemOps.read]
  cases ItemOps.item? r i with
  | none => rfl
  | some x => cases b <;> simp [LawfulItemOps.intoOwned_borrowAs]

/-- **C14, bridge** `item … owned` through the item model is `index r i` -/
theorem intoOwnedAt_eq_index (r : R) (i : I) (b : Bool) (hi : Inv r) (hv : Valid r i) :
    ItemOps.intoOwnedAt r i b = index r i := read_intoOwned r i b hi hv

/-- **C14, bridge** `item … cloneonto t` through the item model is `index r i`, for every target `t` and both
representations -/
theorem cloneOntoAt_eq_index (r : R) (i : I) (b : Bool) (t : V) (hi : Inv r) (hv : Valid r i) :
    ItemOps.cloneOntoAt r i b t = index r i := by
  rw [← read_intoOwned r i b hi hv]
  unfold ItemOps.cloneOntoAt
  cases ItemOps.read r i b with
  | none => rfl
  | some x => simp only [Option.map_some, LawfulItemOps.cloneOnto_eq]

theorem cloneOntoAt_indep (r : R) (i : I) (b b' : Bool) (t t' : V) (hi : Inv r) (hv : Valid r i) :
    ItemOps.cloneOntoAt r i b t = ItemOps.cloneOntoAt r i b' t' ∧
    ItemOps.cloneOntoAt r i b t = ItemOps.intoOwnedAt r i b' := by
  rw [cloneOntoAt_eq_index r i b t hi hv, cloneOntoAt_eq_index r i b' t' hi hv, intoOwnedAt_eq_index r i b' hi hv]
  exact ⟨rfl, rfl⟩

theorem cloneOntoAt_isSome [LawfulRegion R] (r : R) (i : I) (b : Bool) (t : V) (hi : Inv r) (hv : Valid r i) :
    (ItemOps.cloneOntoAt r i b t).isSome := by
  obtain ⟨u, hu⟩ := LawfulRegion.valid_reads r i hi hv
  rw [cloneOntoAt_eq_index r i b t hi hv, hu]
  rfl

end Bridge
end C14

theorem map_baseIntoOwned {T : Type} (o : Option T) : o.map BaseItem.intoOwned = o := Option.map_id'

instance lawfulItems_mirror (T : Type) : LawfulItemOps (MirrorRegion T) where
  item_index r i _ _ := map_baseIntoOwned (index r i)
  cloneOnto_eq _ _ := rfl
  intoOwned_borrowAs _ := rfl

instance lawfulItems_owned (T : Type) : LawfulItemOps (OwnedRegion T) where
  item_index r i _ _ := map_baseIntoOwned (index r i)
  cloneOnto_eq _ _ := rfl
  intoOwned_borrowAs _ := rfl

instance lawfulItems_vec (T : Type) : LawfulItemOps (VecRegion T) where
  item_index r i _ _ := map_baseIntoOwned (index r i)
  cloneOnto_eq _ _ := rfl
  intoOwned_borrowAs _ := rfl

instance lawfulItems_codec : LawfulItemOps Codec.Region where
  item_index r i _ _ := map_baseIntoOwned (index r i)
  cloneOnto_eq _ _ := rfl
  intoOwned_borrowAs _ := rfl

instance lawfulItems_tupleNil : LawfulItemOps TupleNil where
  item_index r i _ _ := map_baseIntoOwned (index r i)
  cloneOnto_eq _ _ := rfl
  intoOwned_borrowAs _ := rfl

instance : BytesItem (OwnedRegion UInt8) := ⟨fun _ => rfl⟩
instance : BytesItem Codec.Region := ⟨fun _ => rfl⟩
instance {R I : Type} [Region R (List UInt8) I] [HasEqv (List UInt8)] [ItemOps R (List UInt8)] [BytesItem R] :
    BytesItem (CollapseSequence R I) := ⟨fun x => BytesItem.intoOwned_id (R := R) x⟩
instance {R O : Type} [Region R (List UInt8) (Nat × Nat)] [DenseRegion R] [IdxCont O Nat] [ItemOps R (List UInt8)]
    [BytesItem R] : BytesItem (ConsecPairs R O) := ⟨fun x => BytesItem.intoOwned_id (R := R) x⟩

/-- `StringRegion<R>`: the `&str` has the bytes of the inner `&[u8]` item -/
instance lawfulItems_string {R I : Type} [Region R (List UInt8) I] [ItemOps R (List UInt8)] [LawfulItemOps R] [BytesItem R] :
    LawfulItemOps (StringRegion R) where
  item_index r i hi hv := by
    have h := LawfulItemOps.item_index r.inner i hi hv
    show (ItemOps.item? r.inner i).map BaseItem.intoOwned = index r.inner i
    rw [← h, map_baseIntoOwned]
    cases ItemOps.item? r.inner i with
    | none => rfl
    | some x => simp only [Option.map_some, BytesItem.intoOwned_id]
  cloneOnto_eq _ _ := rfl
  intoOwned_borrowAs _ := rfl

instance lawfulItems_option {R V I X : Type} [Region R V I] [ItemOps R X] [LawfulItemOps R] : LawfulItemOps (OptionRegion R) where
  item_index r i hi hv := by
    cases i with
    | none => rfl
    | some j =>
      have h := LawfulItemOps.item_index r.inner j hi hv
      show ((ItemOps.item? r.inner j).map some).map (OptionItem.intoOwned (ItemOps.intoOwned (R := R))) =
        (index r.inner j).map some
      rw [← h]
      cases ItemOps.item? r.inner j <;> rfl
  cloneOnto_eq := C14.option_cloneOnto_eq _ _ (LawfulItemOps.cloneOnto_eq (R := R))
  intoOwned_borrowAs := C14.option_borrow_roundtrip _ _ (LawfulItemOps.intoOwned_borrowAs (R := R))

instance lawfulItems_result {T VT IT XT E VE IE XE : Type} [Region T VT IT] [Region E VE IE] [ItemOps T XT] [ItemOps E XE]
    [LawfulItemOps T] [LawfulItemOps E] : LawfulItemOps (ResultRegion T E) where
  item_index r i hi hv := by
    cases i with
    | ok j =>
      have h := LawfulItemOps.item_index r.oks j hi.1 hv
      show ((ItemOps.item? r.oks j).map Except.ok).map
          (ResultItem.intoOwned (ItemOps.intoOwned (R := T)) (ItemOps.intoOwned (R := E))) =
        (index r.oks j).map Except.ok
      rw [← h]
      cases ItemOps.item? r.oks j <;> rfl
    | error j =>
      have h := LawfulItemOps.item_index r.errs j hi.2 hv
      show ((ItemOps.item? r.errs j).map Except.error).map
          (ResultItem.intoOwned (ItemOps.intoOwned (R := T)) (ItemOps.intoOwned (R := E))) =
        (index r.errs j).map Except.error
      rw [← h]
      cases ItemOps.item? r.errs j <;> rfl
  cloneOnto_eq := C14.result_cloneOnto_eq _ _ _ _ (LawfulItemOps.cloneOnto_eq (R := T))
    (LawfulItemOps.cloneOnto_eq (R := E))
  intoOwned_borrowAs := C14.result_borrow_roundtrip _ _ _ _ (LawfulItemOps.intoOwned_borrowAs (R := T))
    (LawfulItemOps.intoOwned_borrowAs (R := E))

instance lawfulItems_tupleCons {A VA IA XA B VB IB XB : Type} [Region A VA IA] [Region B VB IB] [ItemOps A XA] [ItemOps B XB]
    [LawfulItemOps A] [LawfulItemOps B] : LawfulItemOps (TupleCons A B) where
  item_index r i hi hv := by
    simp only [ItemOps.item?, ItemOps.intoOwned, index, ← LawfulItemOps.item_index r.head i.1 hi.1 hv.1,
      ← LawfulItemOps.item_index r.tail i.2 hi.2 hv.2]
    cases ItemOps.item? r.head i.1 <;> cases ItemOps.item? r.tail i.2 <;> rfl
  cloneOnto_eq := C14.tuple_cloneOnto_eq _ _ _ _ (LawfulItemOps.cloneOnto_eq (R := A))
    (LawfulItemOps.cloneOnto_eq (R := B))
  intoOwned_borrowAs := C14.tuple_borrow_roundtrip _ _ _ _ (LawfulItemOps.intoOwned_borrowAs (R := A))
    (LawfulItemOps.intoOwned_borrowAs (R := B))

instance lawfulItems_slice {R V I X O : Type} [Region R V I] [ItemOps R X] [IdxCont O I] [LawfulItemOps R] [LawfulIdxCont O] :
    LawfulItemOps (SliceRegion R O) where
  item_index r i hi hv := by
    obtain ⟨hin, hc, hval⟩ := hi
    rw [← ReadSlice.iter_backed_eq_index r i hc hv]
    show (SliceRegion.items? r i).map (List.map (ItemOps.intoOwned (R := R))) = _
    apply mapM_map_congr
    intro k _
    rw [LawfulIdxCont.index_eq _ _ hc]
    cases hj : (IdxCont.iter r.slices)[i.1 + k]? with
    | none => rfl
    | some j => exact LawfulItemOps.item_index r.inner j hin (hval j (List.mem_of_getElem? hj))
  cloneOnto_eq := C14.slice_cloneOnto_eq _ _ (LawfulItemOps.cloneOnto_eq (R := R))
  intoOwned_borrowAs := C14.slice_borrow_roundtrip _ _ (LawfulItemOps.intoOwned_borrowAs (R := R))

theorem itemRow_map {R V I X : Type} [Region R V I] [ItemOps R X] [LawfulItemOps R] (cs : List R) (is : List I)
    (hi : ∀ c ∈ cs, Inv c) (h : RowValid cs is) :
    (itemRow cs is).map (List.map (ItemOps.intoOwned (R := R))) = readRow cs is := by
  induction is generalizing cs with
  | nil => cases cs <;> rfl
  | cons i is ih =>
    cases cs with
    | nil => exact absurd h (by simp [RowValid])
    | cons c cs =>
      obtain ⟨h1, h2⟩ := h
      have hc := LawfulItemOps.item_index c i (hi c (by simp)) h1
      have hr := ih cs (fun x hx => hi x (by simp [hx])) h2
      simp only [itemRow, readRow]
      rw [← hc, ← hr]
      cases ItemOps.item? c i <;> cases itemRow cs is <;> rfl

/-- `ColumnsRegion<R, O>` — the same `IntoOwned` code as slices -/
instance lawfulItems_columns {R V I X O : Type} [Region R V I] [ItemOps R X] [IdxCont O Nat] [LawfulItemOps R] :
    LawfulItemOps (ColumnsRegion R I O) where
  item_index r k hi hv := by
    obtain ⟨_, hcols, hrow⟩ := hi
    simp only [ItemOps.item?, ItemOps.intoOwned, ColumnsRegion.index_eq]
    cases his : index r.indices k with
    | none => rfl
    | some is => exact itemRow_map r.cols is hcols (hrow k is hv his)
  cloneOnto_eq := C14.slice_cloneOnto_eq _ _ (LawfulItemOps.cloneOnto_eq (R := R))
  intoOwned_borrowAs := C14.slice_borrow_roundtrip _ _ (LawfulItemOps.intoOwned_borrowAs (R := R))

instance lawfulItems_collapse {R V I X : Type} [Region R V I] [HasEqv V] [ItemOps R X] [LawfulItemOps R] :
    LawfulItemOps (CollapseSequence R I) where
  item_index r i hi hv := LawfulItemOps.item_index r.inner i hi.1 hv
  cloneOnto_eq := LawfulItemOps.cloneOnto_eq (R := R)
  intoOwned_borrowAs := LawfulItemOps.intoOwned_borrowAs (R := R)

instance lawfulItems_consec {R V X O : Type} [Region R V (Nat × Nat)] [DenseRegion R] [IdxCont O Nat] [ItemOps R X]
    [LawfulItemOps R] : LawfulItemOps (ConsecPairs R O) where
  item_index r k hi _ := by
    obtain ⟨hin, _, _, _, hval⟩ := hi
    show (match (IdxCont.iter r.indices)[k]?, (IdxCont.iter r.indices)[k+1]? with
        | some a, some b => ItemOps.item? r.inner (a, b)
        | _, _ => none).map (ItemOps.intoOwned (R := R)) =
      (match (IdxCont.iter r.indices)[k]?, (IdxCont.iter r.indices)[k+1]? with
        | some a, some b => index r.inner (a, b)
        | _, _ => none)
    cases ha : (IdxCont.iter r.indices)[k]? with
    | none => rfl
    | some a =>
      cases hb : (IdxCont.iter r.indices)[k+1]? with
      | none => rfl
      | some b => exact LawfulItemOps.item_index r.inner (a, b) hin (hval k a b ha hb)
  cloneOnto_eq := LawfulItemOps.cloneOnto_eq (R := R)
  intoOwned_borrowAs := LawfulItemOps.intoOwned_borrowAs (R := R)

instance lawfulItems_flatStack {R V I X S : Type} [Region R V I] [IdxCont S I] [ItemOps R X] [LawfulItemOps R] [LawfulIdxCont S] :
    LawfulItemOps (FlatStack R S) where
  item_index fs k hi _ := by
    obtain ⟨hin, hc, hval⟩ := hi
    show (match IdxCont.index fs.indices k with
        | none => none
        | some i => ItemOps.item? fs.region i).map (ItemOps.intoOwned (R := R)) =
      (match IdxCont.index fs.indices k with
        | none => none
        | some i => index fs.region i)
    rw [LawfulIdxCont.index_eq _ _ hc]
    cases hj : (IdxCont.iter fs.indices)[k]? with
    | none => rfl
    | some j => exact LawfulItemOps.item_index fs.region j hin (hval j (List.mem_of_getElem? hj))
  cloneOnto_eq := LawfulItemOps.cloneOnto_eq (R := R)
  intoOwned_borrowAs := LawfulItemOps.intoOwned_borrowAs (R := R)

namespace WrappedOK

theorem ops_eq' (a : WrappedOK) (t : List Nat) :
    a.1.intoOwned = some a.intoOwned ∧ a.1.cloneOnto t = some (a.cloneOnto t) :=
  ⟨(Option.some_get _).symm, (Option.some_get _).symm⟩

end WrappedOK

instance lawfulItems_huffman : LawfulItemOps Huff.Container where
  item_index h i hi hv := by
    obtain ⟨h1, h2⟩ := C14.item_decode_eq_index h i hv
    obtain ⟨xs, hxs⟩ := LawfulRegion.valid_reads h i hi hv
    obtain ⟨a, ha, _, hao⟩ := WrappedOK.ofWrapped?_of_decode (h.item i) xs (h2.trans hxs)
    show ((h.item? i).bind WrappedOK.ofWrapped?).map WrappedOK.intoOwned = index h i
    rw [h1, Option.bind_some, ha, Option.map_some, hao, hxs]
  cloneOnto_eq a t := by
    apply Option.some.inj
    show some (WrappedOK.cloneOnto a t) = some (WrappedOK.intoOwned a)
    rw [WrappedOK.some_cloneOnto, WrappedOK.some_intoOwned]
  intoOwned_borrowAs v := by
    apply Option.some.inj
    show some (WrappedOK.intoOwned (WrappedOK.borrowAs v)) = some v
    rw [WrappedOK.some_intoOwned]
    rfl

instance lawfulItems_huffU8 : LawfulItemOps HuffU8 where
  item_index h i hi hv := by
    have := LawfulItemOps.item_index h.c i hi hv
    show (ItemOps.item? h.c i).map (fun a => (WrappedOK.intoOwned a).map UInt8.ofNat) =
      (index h.c i).map fun xs => xs.map UInt8.ofNat
    rw [← this, Option.map_map]
    rfl
  cloneOnto_eq a t := by
    show (WrappedOK.cloneOnto a (t.map UInt8.toNat)).map UInt8.ofNat = (WrappedOK.intoOwned a).map UInt8.ofNat
    rw [show WrappedOK.cloneOnto a (t.map UInt8.toNat) = WrappedOK.intoOwned a from
      LawfulItemOps.cloneOnto_eq (R := Huff.Container) a _]
  intoOwned_borrowAs v := by
    show (WrappedOK.intoOwned (WrappedOK.borrowAs (v.map UInt8.toNat))).map UInt8.ofNat = v
    rw [show WrappedOK.intoOwned (WrappedOK.borrowAs (v.map UInt8.toNat)) = v.map UInt8.toNat from
      LawfulItemOps.intoOwned_borrowAs (R := Huff.Container) _, map_ofNat_toNat]

namespace C14

/-! ### the slice path of the driver: the item model's answers are those of `ReadSlice.cloneOnto` / `ReadColumns.cloneOnto`

For element regions whose items are their owned values (`item? = index`, base `IntoOwned`) the item model's
answer is literally what `ReadSlice.cloneOnto` (Model/Items.lean; `sliceItemOp` in Driver/Banks.lean) computes — in every
state, with the same panics. (`C14.readSlice_cloneOnto_is_slice`.) -/
section SliceAgree
variable {R V I O : Type} [Region R V I] [IdxCont O I] [ItemOps R V]

theorem slice_items?_eq_iter (hitem : ∀ (r : R) (i : I), ItemOps.item? r i = index r i)
    (r : SliceRegion R O) (i : Nat × Nat) :
    ItemOps.item? r i = (ReadSlice.backed r i.1 i.2 : ReadSlice R O V).iter := by
  show SliceRegion.items? r i = _
  simp only [SliceRegion.items?, ReadSlice.iter, hitem]

theorem slice_cloneOntoAt_backed (hitem : ∀ (r : R) (i : I), ItemOps.item? r i = index r i)
    (hio : ∀ x : V, ItemOps.intoOwned (R := R) x = x) (hco : ∀ x t : V, ItemOps.cloneOnto (R := R) x t = x)
    (r : SliceRegion R O) (i : Nat × Nat) (t : List V) :
    ItemOps.cloneOntoAt r i false t = (ReadSlice.backed r i.1 i.2 : ReadSlice R O V).cloneOnto t := by
  rw [ReadSlice.cloneOnto_eq_iter, ← slice_items?_eq_iter hitem]
  show (ItemOps.read r i false).map (fun x => SliceItem.cloneOnto _ _ x t) = _
  simp only [ItemOps.read, SliceItem.cloneOnto_base _ _ hio hco]
  cases ItemOps.item? r i <;> rfl

theorem slice_cloneOntoAt_borrowed (hitem : ∀ (r : R) (i : I), ItemOps.item? r i = index r i)
    (hio : ∀ x : V, ItemOps.intoOwned (R := R) x = x) (hco : ∀ x t : V, ItemOps.cloneOnto (R := R) x t = x)
    (hba : ∀ v : V, ItemOps.borrowAs (R := R) v = v)
    (r : SliceRegion R O) (i : Nat × Nat) (t : List V) :
    ItemOps.cloneOntoAt r i true t =
      ((ReadSlice.backed r i.1 i.2 : ReadSlice R O V).intoOwned).bind fun vs =>
        (ReadSlice.borrowed vs : ReadSlice R O V).cloneOnto t := by
  simp only [ReadSlice.cloneOnto_eq_iter, ReadSlice.intoOwned, ← slice_items?_eq_iter hitem]
  show (ItemOps.read r i true).map (fun x => SliceItem.cloneOnto _ _ x t) = _
  simp only [ItemOps.read, SliceItem.cloneOnto_base _ _ hio hco]
  cases ItemOps.item? r i with
  | none => rfl
  | some items =>
    show some (SliceItem.borrowAs _ (SliceItem.intoOwned _ items)) = some items
    rw [SliceItem.borrowAs, SliceItem.intoOwned, List.map_map]
    exact congrArg some ((List.map_congr_left fun x _ => (hba _).trans (hio x)).trans (List.map_id _))

/-- e.g. `SliceRegion<MirrorRegion<T>>`, `SliceRegion<OwnedRegion<T>>`: the hypotheses hold by `rfl` -/
example (T : Type) (r : SliceRegion (MirrorRegion T) O') (i : Nat × Nat) (t : List T) [IdxCont O' T] :
    ItemOps.cloneOntoAt r i false t = (ReadSlice.backed r i.1 i.2 : ReadSlice (MirrorRegion T) O' T).cloneOnto t :=
  slice_cloneOntoAt_backed (fun _ _ => rfl) (fun _ => rfl) (fun _ _ => rfl) r i t

end SliceAgree

/-! … and likewise the row path: `ReadColumns.cloneOnto` on the item `colsItem` (Driver/Banks.lean) builds -/
section ColumnsAgree
variable {R V I O : Type} [Region R V I] [IdxCont O Nat] [ItemOps R V]

theorem itemRow_eq_readRow (hitem : ∀ (r : R) (i : I), ItemOps.item? r i = index r i) (cs : List R) (is : List I) :
    (itemRow cs is : Option (List V)) = readRow cs is := by
  induction is generalizing cs with
  | nil => cases cs <;> rfl
  | cons i is ih =>
    cases cs with
    | nil => rfl
    | cons c cs =>
      simp only [itemRow, readRow, hitem, ih]
      cases index c i <;> cases (readRow cs is : Option (List V)) <;> rfl

theorem columns_cloneOntoAt_backed (hitem : ∀ (r : R) (i : I), ItemOps.item? r i = index r i)
    (hio : ∀ x : V, ItemOps.intoOwned (R := R) x = x) (hco : ∀ x t : V, ItemOps.cloneOnto (R := R) x t = x)
    (r : ColumnsRegion R I O) (k : Nat) (t : List V) :
    ItemOps.cloneOntoAt r k false t =
      (index r.indices k).bind fun is => (ReadColumns.backed r.cols is : ReadColumns R I V).cloneOnto t := by
  have hit : ItemOps.item? r k = (index r.indices k).bind fun is => (readRow r.cols is : Option (List V)) := by
    show (match index r.indices k with | none => none | some is => itemRow r.cols is) = _
    cases index r.indices k with
    | none => rfl
    | some is => exact itemRow_eq_readRow hitem r.cols is
  simp only [ReadColumns.cloneOnto_eq_iter, ReadColumns.iter, ← hit]
  show (ItemOps.read r k false).map (fun x => SliceItem.cloneOnto _ _ x t) = _
  simp only [ItemOps.read, SliceItem.cloneOnto_base _ _ hio hco]
  cases ItemOps.item? r k <;> rfl

end ColumnsAgree

/-- **C15, bridge** the items the driver compares for a Huffman container — region-backed (`Wrapped.encoded` or
`Wrapped.raw` out of the container) or borrowed (`Wrapped.raw` of the owned value), in any of the four
combinations, from any two containers — compare through `Wrapped.eq` / `Wrapped.cmp` exactly as the owned
values `index` returns compare -/
theorem huffman_cmpItems (h₁ h₂ : Huff.Container) (i j : Nat × Nat) (b₁ b₂ : Bool) (hi₁ : Inv h₁) (hv₁ : Valid h₁ i)
    (hi₂ : Inv h₂) (hv₂ : Valid h₂ j) :
    ∃ x y xs ys, ItemOps.read h₁ i b₁ = some x ∧ ItemOps.read h₂ j b₂ = some y ∧
      index h₁ i = some xs ∧ index h₂ j = some ys ∧
      ItemCmp.eq x y = some (listEq (· == ·) xs ys) ∧ ItemCmp.cmp x y = some (lexCmp compare xs ys) := by
  obtain ⟨xs, hxs⟩ := LawfulRegion.valid_reads h₁ i hi₁ hv₁
  obtain ⟨ys, hys⟩ := LawfulRegion.valid_reads h₂ j hi₂ hv₂
  obtain ⟨x, hx, dx⟩ := Option.map_eq_some_iff.1 ((read_intoOwned h₁ i b₁ hi₁ hv₁).trans hxs)
  obtain ⟨y, hy, dy⟩ := Option.map_eq_some_iff.1 ((read_intoOwned h₂ j b₂ hi₂ hv₂).trans hys)
  have dx : x.1.decode = some xs := (WrappedOK.some_intoOwned x).symm.trans (congrArg some dx)
  have dy : y.1.decode = some ys := (WrappedOK.some_intoOwned y).symm.trans (congrArg some dy)
  exact ⟨x, y, xs, ys, hx, hy, hxs, hys, C15.wrapped_eq _ _ xs ys dx dy, C15.wrapped_cmp _ _ xs ys dx dy⟩

theorem iterEqBy_total {X : Type} (eq : X → X → Option Bool) (eq' : X → X → Bool) (h : ∀ a b, eq a b = some (eq' a b))
    (xs ys : List X) : iterEqBy eq xs ys = some (listEq eq' xs ys) := by
  induction xs generalizing ys with
  | nil => cases ys <;> rfl
  | cons a as ih =>
    cases ys with
    | nil => rfl
    | cons b bs => cases hab : eq' a b <;> simp [iterEqBy, listEq, h, hab, ih]

theorem iterCmpBy_total {X : Type} (cmp : X → X → Option Ordering) (cmp' : X → X → Ordering)
    (h : ∀ a b, cmp a b = some (cmp' a b)) (xs ys : List X) : iterCmpBy cmp xs ys = some (lexCmp cmp' xs ys) := by
  fun_induction lexCmp cmp' xs ys <;> simp [iterCmpBy, *]

theorem wrappedOK_cmp (a b : WrappedOK) :
    ItemCmp.eq a b = some (listEq (· == ·) a.intoOwned b.intoOwned) ∧
    ItemCmp.cmp a b = some (lexCmp compare a.intoOwned b.intoOwned) :=
  ⟨C15.wrapped_eq _ _ _ _ (WrappedOK.some_intoOwned a).symm (WrappedOK.some_intoOwned b).symm,
    C15.wrapped_cmp _ _ _ _ (WrappedOK.some_intoOwned a).symm (WrappedOK.some_intoOwned b).symm⟩

/-- **C15, bridge** slices of Huffman items (`slice(huffman(u8),vec)`): `ReadSlice::eq` / `cmp`, i.e.
`Iterator::eq` / `cmp` over `Wrapped::eq` / `cmp`, is the comparison of the owned `Vec<Vec<B>>`s -/
theorem slice_wrappedOK_cmp (xs ys : List WrappedOK) :
    ItemCmp.eq xs ys = some (listEq (fun a b : WrappedOK => listEq (· == ·) a.intoOwned b.intoOwned) xs ys) ∧
    ItemCmp.cmp xs ys = some (lexCmp (fun a b : WrappedOK => lexCmp compare a.intoOwned b.intoOwned) xs ys) :=
  ⟨iterEqBy_total _ _ (fun a b => (wrappedOK_cmp a b).1) xs ys, iterCmpBy_total _ _ (fun a b => (wrappedOK_cmp a b).2) xs ys⟩

end C14

/-! ### coverage examples: instance resolution finds the law for nested compositions -/

example : LawfulItemOps (SliceRegion (OptionRegion (TupleCons HuffU8 (TupleCons (MirrorRegion Nat) TupleNil)))
    (VecIdx (Option ((Nat × Nat) × Nat × Unit)) 8)) := inferInstance
example : LawfulItemOps (ResultRegion (SliceRegion (MirrorRegion Nat) (VecIdx Nat 1)) (StringRegion (OwnedRegion UInt8))) :=
  inferInstance

/-- the instance-derived operations are the Rust code paths: a Huffman item inside an `Option` inside a
slice, cloned onto a longer target of the other variants -/
example :
    ItemOps.cloneOnto (R := SliceRegion (OptionRegion Huff.Container) (VecIdx (Option (Nat × Nat)) 8))
      [some (WrappedOK.borrowAs [1, 2]), none] [none, some [7], some [8, 8]] = [some [1, 2], none] := by
  decide

end FC
