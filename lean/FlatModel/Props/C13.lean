import FlatModel.Proofs.Items
import FlatModel.Props.C03
/-! C13: positional accessors of read items expose exactly their own item and fail-stop out of
bounds (`ReadSlice`, `ReadColumns`, `FlatStack::get`). -/
namespace FC
open Region

namespace C13

section Slice
variable {R V I O : Type} [Region R V I] [IdxCont O I] [LawfulRegion R] [LawfulIdxCont O]

/-- **C13** the item `index` issues for a valid index iterates to exactly what `index` returns -/
theorem readSlice_backed_iter (r : SliceRegion R O) (i : Nat × Nat) (hi : Inv r) (hv : Valid r i) :
    ∃ vs, (ReadSlice.backed r i.1 i.2 : ReadSlice R O V).iter = some vs ∧ index r i = some vs :=
  ReadSlice.iter_backed r i hi hv

omit [LawfulRegion R] [LawfulIdxCont O] in
theorem readSlice_get_of_iter (x : ReadSlice R O V) (vs : List V) (h : x.iter = some vs) (k : Nat) :
    x.get k = vs[k]? :=
  ReadSlice.get_of_iter x vs h k

/-- **C13** `get` exposes exactly the item's own elements: for a well-formed item (issued by `index`
on a consistent region for a valid index, or borrowed) `get k` is the `k`-th element of the owned
value, and a panic for every `k ≥ len` -/
theorem readSlice_get (x : ReadSlice R O V) (hx : x.WF) (k : Nat) :
    x.get k = x.intoOwned.bind (·[k]?) := by
  obtain ⟨vs, hvs⟩ := ReadSlice.wf_iter x hx
  rw [ReadSlice.get_of_iter x vs hvs k, ReadSlice.intoOwned, hvs]
  rfl

theorem readSlice_get_backed (r : SliceRegion R O) (i : Nat × Nat) (hi : Inv r) (hv : Valid r i) (k : Nat) :
    (ReadSlice.backed r i.1 i.2 : ReadSlice R O V).get k = (index r i).bind (·[k]?) := by
  rw [readSlice_get (ReadSlice.backed r i.1 i.2) ⟨hi, hv⟩ k, ReadSlice.intoOwned,
    ReadSlice.iter_backed_eq_index r i hi.2.1 hv]

omit [LawfulRegion R] [LawfulIdxCont O] in
theorem readSlice_get_borrowed (vs : List V) (k : Nat) :
    (ReadSlice.borrowed vs : ReadSlice R O V).get k = vs[k]? := rfl

theorem readSlice_get_oob (x : ReadSlice R O V) (hx : x.WF) (k : Nat) (hk : x.len ≤ k) : x.get k = none := by
  obtain ⟨vs, hvs⟩ := ReadSlice.wf_iter x hx
  rw [ReadSlice.get_of_iter x vs hvs k]
  rw [ReadSlice.len_of_iter x vs hvs] at hk
  exact List.getElem?_eq_none hk

theorem readSlice_get_inb (x : ReadSlice R O V) (hx : x.WF) (k : Nat) (hk : k < x.len) :
    ∃ vs v, x.intoOwned = some vs ∧ vs[k]? = some v ∧ x.get k = some v := by
  obtain ⟨vs, hvs⟩ := ReadSlice.wf_iter x hx
  rw [ReadSlice.len_of_iter x vs hvs] at hk
  exact ⟨vs, vs[k], hvs, List.getElem?_eq_getElem hk, by
    rw [ReadSlice.get_of_iter x vs hvs k, List.getElem?_eq_getElem hk]⟩

omit [LawfulRegion R] [LawfulIdxCont O] in
theorem readSlice_len_iter (x : ReadSlice R O V) (vs : List V) (h : x.iter = some vs) : x.len = vs.length :=
  ReadSlice.len_of_iter x vs h

omit [LawfulRegion R] [LawfulIdxCont O] in
/-- **C13** `len` / `is_empty` agree with the iteration. `is_empty` is `start == end`, which agrees
with `len == 0` only for `start ≤ end` — part of well-formedness (see the example with `start > end` below). -/
theorem len_iter_agree (x : ReadSlice R O V) (vs : List V) (hx : x.WF) (h : x.iter = some vs) :
    x.len = vs.length ∧ x.isEmpty = vs.isEmpty := by
  have hl := ReadSlice.len_of_iter x vs h
  exact ⟨hl, Bool.eq_iff_iff.2 (by rw [ReadSlice.isEmpty_iff x hx, hl, List.isEmpty_iff_length_eq_zero])⟩

omit [LawfulRegion R] [LawfulIdxCont O] in
/-- `get` and the code before the repair differ at `k = len` only -/
theorem readSlice_get_eq_getLegacy (x : ReadSlice R O V) (k : Nat) (hk : k ≠ x.len) :
    x.get k = x.getLegacy k :=
  ReadSlice.get_eq_getLegacy x k hk

end Slice

open ItemsEx

/-- the hypotheses of the theorems above are satisfiable -/
example : Inv twoItems ∧ Valid twoItems (0, 2) ∧ Valid twoItems (2, 3) ∧
    (ReadSlice.backed twoItems 0 2 : ReadSlice _ _ Nat).WF :=
  ⟨twoItems_inv, twoItems_valid₁, twoItems_valid₂, twoItems_inv, twoItems_valid₁⟩

example : (ReadSlice.backed twoItems 0 2 : ReadSlice _ _ Nat).iter = some [10, 20] ∧
    (ReadSlice.backed twoItems 2 3 : ReadSlice _ _ Nat).iter = some [30] ∧
    index twoItems (0, 2) = some [10, 20] := ⟨rfl, rfl, rfl⟩

/-- **the property was false before the repair (D2)**: the legacy `get` at `k = len` returns the
first element of the *neighbouring* item instead of panicking; the repaired `get` panics. -/
example : (ReadSlice.backed twoItems 0 2 : ReadSlice _ _ Nat).len = 2 ∧
    (ReadSlice.backed twoItems 0 2 : ReadSlice _ _ Nat).getLegacy 2 = some 30 ∧
    (ReadSlice.backed twoItems 2 3 : ReadSlice _ _ Nat).get 0 = some 30 ∧
    (ReadSlice.backed twoItems 0 2 : ReadSlice _ _ Nat).get 2 = none := by decide

theorem readSlice_getLegacy_leaks :
    ∃ (r : SliceRegion (MirrorRegion Nat) (VecIdx Nat 8)) (i j : Nat × Nat) (v : Nat),
      Inv r ∧ Valid r i ∧ Valid r j ∧
      (ReadSlice.backed r i.1 i.2 : ReadSlice _ _ Nat).getLegacy (ReadSlice.backed r i.1 i.2 : ReadSlice _ _ Nat).len = some v ∧
      (ReadSlice.backed r i.1 i.2 : ReadSlice _ _ Nat).intoOwned = some [10, 20] ∧ v ∉ [10, 20] ∧
      (ReadSlice.backed r j.1 j.2 : ReadSlice _ _ Nat).get 0 = some v :=
  ⟨twoItems, (0, 2), (2, 3), 30, twoItems_inv, twoItems_valid₁, twoItems_valid₂, rfl, rfl, by decide, rfl⟩

/-- outside well-formedness (`start > end`, which `index` never issues and on which the Rust
`end - start` overflows) `is_empty` and `len` disagree: the hypothesis of `len_iter_agree` is needed -/
example : (ReadSlice.backed twoItems 2 1 : ReadSlice _ _ Nat).iter = some [] ∧
    (ReadSlice.backed twoItems 2 1 : ReadSlice _ _ Nat).isEmpty = false := ⟨rfl, rfl⟩

section Columns
variable {R V I O : Type} [Region R V I] [LawfulRegion R] [IdxCont O Nat] [LawfulIdxCont O]

/-- **C13** the item `index` issues for a valid row: `columns = &self.inner`, `index` = the stored
row of per-column indices; it is well-formed and iterates to exactly what `index` returns -/
theorem readColumns_backed_iter (r : ColumnsRegion R I O) (k : Nat) (hi : Inv r) (hv : Valid r k) :
    ∃ ix vs, index r.indices k = some ix ∧ (ReadColumns.backed r.cols ix : ReadColumns R I V).WF ∧
      (ReadColumns.backed r.cols ix : ReadColumns R I V).iter = some vs ∧ index r k = some vs :=
  ReadColumns.iter_backed r k hi hv

omit [LawfulRegion R] in
theorem readColumns_get_of_iter (x : ReadColumns R I V) (vs : List V) (h : x.iter = some vs) (k : Nat) :
    x.get k = vs[k]? :=
  ReadColumns.get_of_iter x vs h k

/-- **C13** for a well-formed row item `get k` is the `k`-th element of the owned row, and a panic out of bounds -/
theorem readColumns_get (x : ReadColumns R I V) (hx : x.WF) (k : Nat) :
    x.get k = x.intoOwned.bind (·[k]?) := by
  obtain ⟨vs, hvs⟩ := ReadColumns.wf_iter x hx
  rw [ReadColumns.get_of_iter x vs hvs k, ReadColumns.intoOwned, hvs]
  rfl

theorem readColumns_get_backed (r : ColumnsRegion R I O) (j : Nat) (hi : Inv r) (hv : Valid r j) (k : Nat) :
    ∃ ix, index r.indices j = some ix ∧
      (ReadColumns.backed r.cols ix : ReadColumns R I V).get k = (index r j).bind (·[k]?) := by
  obtain ⟨ix, vs, h1, _, h3, h4⟩ := readColumns_backed_iter r j hi hv
  refine ⟨ix, h1, ?_⟩
  rw [ReadColumns.get_of_iter _ vs h3 k, h4]
  rfl

omit [LawfulRegion R] in
theorem readColumns_get_borrowed (vs : List V) (k : Nat) :
    (ReadColumns.borrowed vs : ReadColumns R I V).get k = vs[k]? := rfl

theorem readColumns_get_oob (x : ReadColumns R I V) (hx : x.WF) (k : Nat) (hk : x.len ≤ k) : x.get k = none := by
  obtain ⟨vs, hvs⟩ := ReadColumns.wf_iter x hx
  rw [ReadColumns.get_of_iter x vs hvs k]
  rw [ReadColumns.len_of_iter x vs hvs] at hk
  exact List.getElem?_eq_none hk

omit [LawfulRegion R] in
/-- **C13** `len` / `is_empty` agree with the iteration (no assumption on the columns) -/
theorem readColumns_len_iter_agree (x : ReadColumns R I V) (vs : List V) (h : x.iter = some vs) :
    x.len = vs.length ∧ x.isEmpty = vs.isEmpty := by
  have hl := ReadColumns.len_of_iter x vs h
  exact ⟨hl, Bool.eq_iff_iff.2 (by rw [ReadColumns.isEmpty_iff, hl, List.isEmpty_iff_length_eq_zero])⟩

end Columns

/-- a concrete consistent row region (`ItemsEx.twoRows`): two columns, rows `[1, 2]` and `[3]` -/
example : Inv twoRows ∧ Valid twoRows 0 ∧ Valid twoRows 1 := twoRows_inv

example : index twoRows 0 = some [1, 2] ∧ index twoRows 1 = some [3] ∧
    index twoRows.indices 0 = some [1, 2] ∧
    (ReadColumns.backed twoRows.cols [1, 2] : ReadColumns _ Nat Nat).iter = some [1, 2] ∧
    (ReadColumns.backed twoRows.cols [1, 2] : ReadColumns _ Nat Nat).get 1 = some 2 ∧
    (ReadColumns.backed twoRows.cols [1, 2] : ReadColumns _ Nat Nat).get 2 = none ∧
    (ReadColumns.backed twoRows.cols [1, 2] : ReadColumns _ Nat Nat).WF :=
  ⟨rfl, rfl, rfl, rfl, rfl, rfl, fun _ _ => trivial, trivial, trivial, trivial⟩

section Stack
variable {R V I S : Type} [Region R V I] [IdxCont S I] [LawfulRegion R] [LawfulIdxCont S]

/-- **C13** for a stack that represents the list `spec` of copied values (`fs.Rep spec`; corollary of
`C03.observers`): `get k` panics for every `k ≥ len`, and is the `k`-th copied value (up to `same`) below -/
theorem stack_get (fs : FlatStack R S) (spec : List V) (h : fs.Rep spec) :
    (∀ k, fs.len ≤ k → fs.get k = none) ∧
    (∀ k, k < fs.len → ∃ u w, fs.get k = some u ∧ spec[k]? = some w ∧ same (R := R) u w) := by
  obtain ⟨hlen, _, hoob, hinb, _⟩ := C03.observers fs spec h
  refine ⟨fun k hk => hoob k (by omega), fun k hk => ?_⟩
  have hk' : k < spec.length := by omega
  obtain ⟨u, hu, hs⟩ := hinb k spec[k] (List.getElem?_eq_getElem hk')
  exact ⟨u, spec[k], hu, List.getElem?_eq_getElem hk', hs⟩

end Stack

end C13
end FC
