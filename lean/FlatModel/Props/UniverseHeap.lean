import FlatModel.Props.UniverseOps
import FlatModel.Props.C17
import FlatModel.Props.C18
/-! C18 (`heap_size` accounting) and C17 (allocation discipline) for every composition.

`HeapInv` / `LawfulHeap` / `Stored` (`Proofs/Heap.lean`) have instances for *every* type constructor
of the crate, the coded regions included, so C18 is a theorem for every `d : RDesc v ix`. For the
coded leaves it says little: `heap_size` of a Huffman container is `todo!()` in the crate, the model
reports no pair for it, its `CapInv` is `True` and its `stored` is `0`; for `codec` the model reports
the byte store as `(len, len)` and nothing for the dictionary. Two
refinements hold on sub-universes:
* `d.NoCodec` (no `codec` anywhere; `huffman`, `huffmanU8` allowed): `KeepsCaps` — there is no
  `KeepsCaps Codec.Region`, the model reports the byte store of the dictionary-coded region as
  `(len, len)` and clears to `default`, so the reported capacity drops (`C18.lean`, last example);
* `d.NoColumns` (no `columns` anywhere): `ClearsToDefault` — there is no `ClearsToDefault
  (ColumnsRegion R I O)`: a cleared columns region keeps its columns and accounts their headers;
  what remains is `C18_clear_columns` below.

`Sized` / `LawfulSized` / `LawfulGrowth` (`Proofs/Caps.lean`, `CapsGrowth.lean`: C17) exist for the
vector-backed structural regions only:
* `d.VecSized`: built from `mirror`, `owned`, `vec`, `string`, `option`, `result`, `tupleNil`,
  `tupleCons`, and `slice` / `stack` *over a `Vec` index container* (`IdxKind.vec`). Excluded, for want of
  a `Sized` instance: `collapse`, `consec`, `columns`, `codec`, `huffman`, `huffmanU8`, and `slice` / `stack`
  over `IndexOptimized` / `IndexList` (`Sized (SliceRegion R (Capd (VecIdx I sz)))` is the only slice
  instance);
* `d.Reservable`: `d.VecSized` and no `stack` anywhere: `LawfulReserve` — there is no `LawfulReserve
  (FlatStack R S)`: `FlatStack::reserve_items` leaves the index vector alone. -/
namespace FC.Universe
open FC Region

/-! ### index containers: the heap classes of each `IdxKind`, as data for the recursions below -/

structure IdxHeap {T : Type} (o : IdxBundle T) (a : IdxOps o) where
  heapInv : @IdxHeapInv o.O T o.inst a.aux
  lawfulHeap : @LawfulIdxHeap o.O T o.inst a.aux heapInv
  stored : @IdxStored o.O T o.inst a.aux heapInv

def IdxKind.heap : {i : Ty} → (k : IdxKind i) → IdxHeap k.bundle k.ops
  | i, .vec sz => @IdxHeap.mk _ (IdxKind.vec sz).bundle (IdxKind.vec sz).ops
      (inferInstanceAs (IdxHeapInv (Capd (VecIdx i.interp sz)))) (inferInstanceAs (LawfulIdxHeap (Capd (VecIdx i.interp sz))))
      (inferInstanceAs (IdxStored (Capd (VecIdx i.interp sz))))
  | _, .opt => @IdxHeap.mk _ IdxKind.opt.bundle IdxKind.opt.ops
      (inferInstanceAs (IdxHeapInv (Capd IndexOptimized))) (inferInstanceAs (LawfulIdxHeap (Capd IndexOptimized)))
      (inferInstanceAs (IdxStored (Capd IndexOptimized)))
  | _, .list => @IdxHeap.mk _ IdxKind.list.bundle IdxKind.list.ops
      (inferInstanceAs (IdxHeapInv (Capd IndexList))) (inferInstanceAs (LawfulIdxHeap (Capd IndexList)))
      (inferInstanceAs (IdxStored (Capd IndexList)))

section Heap
variable [σ : SizeEnv]

@[instance_reducible] def RDesc.heapInv : {v : Ty} → {ix : Ix} → (d : RDesc v ix) → HeapInv d.R
  | _, _, .mirror t => inferInstanceAs (HeapInv (MirrorRegion t.interp))
  | _, _, .owned t => letI := σ.elem t; inferInstanceAs (HeapInv (OwnedRegion t.interp))
  | _, _, .vec t => letI := σ.elem t; inferInstanceAs (HeapInv (VecRegion t.interp))
  | _, .any i, .string d =>
    letI : Region d.R (List UInt8) i.interp := d.bundle.inst
    letI : RegionAux d.R := d.aux
    letI : HeapInv d.R := d.heapInv
    inferInstanceAs (HeapInv (StringRegion d.R))
  | _, .dense, .string d =>
    letI : Region d.R (List UInt8) (Nat × Nat) := d.bundle.inst
    letI : RegionAux d.R := d.aux
    letI : HeapInv d.R := d.heapInv
    inferInstanceAs (HeapInv (StringRegion d.R))
  | _, _, .option d => letI := d.heapInv; inferInstanceAs (HeapInv (OptionRegion d.R))
  | _, _, .result t e => letI := t.heapInv; letI := e.heapInv; inferInstanceAs (HeapInv (ResultRegion t.R e.R))
  | _, _, .tupleNil => inferInstanceAs (HeapInv TupleNil)
  | _, _, .tupleCons a b => letI := a.heapInv; letI := b.heapInv; inferInstanceAs (HeapInv (TupleCons a.R b.R))
  | v, _, .collapse (ix := ix) d =>
    letI := v.hasEqv; letI := σ.index ix.ty; letI := d.heapInv
    inferInstanceAs (HeapInv (CollapseSequence d.R ix.ty.interp))
  | _, _, .slice d k =>
    letI := d.heapInv; letI := k.ops.aux; letI := k.heap.heapInv
    inferInstanceAs (HeapInv (SliceRegion d.R k.bundle.O))
  | _, _, .consec d k =>
    letI : RegionAux d.bundleX.R := d.aux
    letI : HeapInv d.bundleX.R := d.heapInv
    letI := k.ops.aux; letI := k.heap.heapInv
    inferInstanceAs (HeapInv (ConsecPairs d.bundleX.R k.bundle.O))
  | _, _, .columns (ix := ix) d k =>
    letI := σ.elem ix.ty; letI := d.heapInv; letI := k.ops.aux; letI := k.heap.heapInv
    inferInstanceAs (HeapInv (ColumnsRegion d.R ix.ty.interp k.bundle.O))
  | _, _, .codec => inferInstanceAs (HeapInv Codec.Region)
  | _, _, .huffman => inferInstanceAs (HeapInv Huff.Container)
  | _, _, .huffmanU8 => inferInstanceAs (HeapInv HuffU8)
  | _, _, .stack d k =>
    letI := d.heapInv; letI := k.ops.aux; letI := k.heap.heapInv
    inferInstanceAs (HeapInv (FlatStack d.R k.bundle.O))

instance heapInvInst {v : Ty} {ix : Ix} (d : RDesc v ix) : HeapInv d.R := d.heapInv

@[instance_reducible] def RDesc.stored : {v : Ty} → {ix : Ix} → (d : RDesc v ix) → Stored d.R
  | _, _, .mirror t => inferInstanceAs (Stored (MirrorRegion t.interp))
  | _, _, .owned t => letI := σ.elem t; inferInstanceAs (Stored (OwnedRegion t.interp))
  | _, _, .vec t => letI := σ.elem t; inferInstanceAs (Stored (VecRegion t.interp))
  | _, .any i, .string d =>
    letI : Region d.R (List UInt8) i.interp := d.bundle.inst
    letI : RegionAux d.R := d.aux
    letI : HeapInv d.R := d.heapInv
    letI : Stored d.R := d.stored
    inferInstanceAs (Stored (StringRegion d.R))
  | _, .dense, .string d =>
    letI : Region d.R (List UInt8) (Nat × Nat) := d.bundle.inst
    letI : RegionAux d.R := d.aux
    letI : HeapInv d.R := d.heapInv
    letI : Stored d.R := d.stored
    inferInstanceAs (Stored (StringRegion d.R))
  | _, _, .option d => letI := d.stored; inferInstanceAs (Stored (OptionRegion d.R))
  | _, _, .result t e => letI := t.stored; letI := e.stored; inferInstanceAs (Stored (ResultRegion t.R e.R))
  | _, _, .tupleNil => inferInstanceAs (Stored TupleNil)
  | _, _, .tupleCons a b => letI := a.stored; letI := b.stored; inferInstanceAs (Stored (TupleCons a.R b.R))
  | v, _, .collapse (ix := ix) d =>
    letI := v.hasEqv; letI := σ.index ix.ty; letI := d.stored
    inferInstanceAs (Stored (CollapseSequence d.R ix.ty.interp))
  | _, _, .slice d k =>
    letI := d.stored; letI := k.ops.aux; letI := k.heap.heapInv; letI := k.heap.stored
    inferInstanceAs (Stored (SliceRegion d.R k.bundle.O))
  | _, _, .consec d k =>
    letI : RegionAux d.bundleX.R := d.aux
    letI : HeapInv d.bundleX.R := d.heapInv
    letI : Stored d.bundleX.R := d.stored
    letI := k.ops.aux; letI := k.heap.heapInv; letI := k.heap.stored
    inferInstanceAs (Stored (ConsecPairs d.bundleX.R k.bundle.O))
  | _, _, .columns (ix := ix) d k =>
    letI := σ.elem ix.ty; letI := d.stored; letI := k.ops.aux; letI := k.heap.heapInv; letI := k.heap.stored
    inferInstanceAs (Stored (ColumnsRegion d.R ix.ty.interp k.bundle.O))
  | _, _, .codec => inferInstanceAs (Stored Codec.Region)
  | _, _, .huffman => inferInstanceAs (Stored Huff.Container)
  | _, _, .huffmanU8 => inferInstanceAs (Stored HuffU8)
  | _, _, .stack d k =>
    letI := d.stored; letI := k.ops.aux; letI := k.heap.heapInv; letI := k.heap.stored
    inferInstanceAs (Stored (FlatStack d.R k.bundle.O))

instance storedInst {v : Ty} {ix : Ix} (d : RDesc v ix) : Stored d.R := d.stored

end Heap

def RDesc.NoCodec : {v : Ty} → {ix : Ix} → RDesc v ix → Prop
  | _, _, .mirror _ => True
  | _, _, .owned _ => True
  | _, _, .vec _ => True
  | _, _, .string d => d.NoCodec
  | _, _, .option d => d.NoCodec
  | _, _, .result t e => t.NoCodec ∧ e.NoCodec
  | _, _, .tupleNil => True
  | _, _, .tupleCons a b => a.NoCodec ∧ b.NoCodec
  | _, _, .collapse d => d.NoCodec
  | _, _, .slice d _ => d.NoCodec
  | _, _, .consec d _ => d.NoCodec
  | _, _, .columns d _ => d.NoCodec
  | _, _, .codec => False
  | _, _, .huffman => True
  | _, _, .huffmanU8 => True
  | _, _, .stack d _ => d.NoCodec

instance RDesc.decNoCodec : {v : Ty} → {ix : Ix} → (d : RDesc v ix) → Decidable d.NoCodec
  | _, _, .mirror _ => isTrue trivial
  | _, _, .owned _ => isTrue trivial
  | _, _, .vec _ => isTrue trivial
  | _, _, .string d => d.decNoCodec
  | _, _, .option d => d.decNoCodec
  | _, _, .result t e => @instDecidableAnd _ _ t.decNoCodec e.decNoCodec
  | _, _, .tupleNil => isTrue trivial
  | _, _, .tupleCons a b => @instDecidableAnd _ _ a.decNoCodec b.decNoCodec
  | _, _, .collapse d => d.decNoCodec
  | _, _, .slice d _ => d.decNoCodec
  | _, _, .consec d _ => d.decNoCodec
  | _, _, .columns d _ => d.decNoCodec
  | _, _, .codec => isFalse id
  | _, _, .huffman => isTrue trivial
  | _, _, .huffmanU8 => isTrue trivial
  | _, _, .stack d _ => d.decNoCodec

def RDesc.NoColumns : {v : Ty} → {ix : Ix} → RDesc v ix → Prop
  | _, _, .mirror _ => True
  | _, _, .owned _ => True
  | _, _, .vec _ => True
  | _, _, .string d => d.NoColumns
  | _, _, .option d => d.NoColumns
  | _, _, .result t e => t.NoColumns ∧ e.NoColumns
  | _, _, .tupleNil => True
  | _, _, .tupleCons a b => a.NoColumns ∧ b.NoColumns
  | _, _, .collapse d => d.NoColumns
  | _, _, .slice d _ => d.NoColumns
  | _, _, .consec d _ => d.NoColumns
  | _, _, .columns _ _ => False
  | _, _, .codec => True
  | _, _, .huffman => True
  | _, _, .huffmanU8 => True
  | _, _, .stack d _ => d.NoColumns

instance RDesc.decNoColumns : {v : Ty} → {ix : Ix} → (d : RDesc v ix) → Decidable d.NoColumns
  | _, _, .mirror _ => isTrue trivial
  | _, _, .owned _ => isTrue trivial
  | _, _, .vec _ => isTrue trivial
  | _, _, .string d => d.decNoColumns
  | _, _, .option d => d.decNoColumns
  | _, _, .result t e => @instDecidableAnd _ _ t.decNoColumns e.decNoColumns
  | _, _, .tupleNil => isTrue trivial
  | _, _, .tupleCons a b => @instDecidableAnd _ _ a.decNoColumns b.decNoColumns
  | _, _, .collapse d => d.decNoColumns
  | _, _, .slice d _ => d.decNoColumns
  | _, _, .consec d _ => d.decNoColumns
  | _, _, .columns _ _ => isFalse id
  | _, _, .codec => isTrue trivial
  | _, _, .huffman => isTrue trivial
  | _, _, .huffmanU8 => isTrue trivial
  | _, _, .stack d _ => d.decNoColumns

section Heap2
variable [σ : SizeEnv]

structure HeapLaws {v : Ty} {ix : Ix} (d : RDesc v ix) : Prop where
  lawful : LawfulHeap d.R
  keeps : d.NoCodec → KeepsCaps d.R
  clears : d.NoColumns → ClearsToDefault d.R

theorem RDesc.heapLaws : {v : Ty} → {ix : Ix} → (d : RDesc v ix) → HeapLaws d
  | _, _, .mirror t => ⟨inferInstanceAs (LawfulHeap (MirrorRegion t.interp)),
      fun _ => inferInstanceAs (KeepsCaps (MirrorRegion t.interp)),
      fun _ => inferInstanceAs (ClearsToDefault (MirrorRegion t.interp))⟩
  | _, _, .owned t => letI := σ.elem t
    ⟨inferInstanceAs (LawfulHeap (OwnedRegion t.interp)), fun _ => inferInstanceAs (KeepsCaps (OwnedRegion t.interp)),
      fun _ => inferInstanceAs (ClearsToDefault (OwnedRegion t.interp))⟩
  | _, _, .vec t => letI := σ.elem t
    ⟨inferInstanceAs (LawfulHeap (VecRegion t.interp)), fun _ => inferInstanceAs (KeepsCaps (VecRegion t.interp)),
      fun _ => inferInstanceAs (ClearsToDefault (VecRegion t.interp))⟩
  | _, .any i, .string d =>
    letI : Region d.R (List UInt8) i.interp := d.bundle.inst
    letI : RegionAux d.R := d.aux
    letI : HeapInv d.R := d.heapInv
    have L := d.heapLaws
    ⟨letI := L.lawful; inferInstanceAs (LawfulHeap (StringRegion d.R)),
      fun h => letI := L.keeps h; inferInstanceAs (KeepsCaps (StringRegion d.R)),
      fun h => letI := L.clears h; inferInstanceAs (ClearsToDefault (StringRegion d.R))⟩
  | _, .dense, .string d =>
    letI : Region d.R (List UInt8) (Nat × Nat) := d.bundle.inst
    letI : RegionAux d.R := d.aux
    letI : HeapInv d.R := d.heapInv
    have L := d.heapLaws
    ⟨letI := L.lawful; inferInstanceAs (LawfulHeap (StringRegion d.R)),
      fun h => letI := L.keeps h; inferInstanceAs (KeepsCaps (StringRegion d.R)),
      fun h => letI := L.clears h; inferInstanceAs (ClearsToDefault (StringRegion d.R))⟩
  | _, _, .option d =>
    have L := d.heapLaws
    ⟨letI := L.lawful; inferInstanceAs (LawfulHeap (OptionRegion d.R)),
      fun h => letI := L.keeps h; inferInstanceAs (KeepsCaps (OptionRegion d.R)),
      fun h => letI := L.clears h; inferInstanceAs (ClearsToDefault (OptionRegion d.R))⟩
  | _, _, .result t e =>
    have T := t.heapLaws; have E := e.heapLaws
    ⟨letI := T.lawful; letI := E.lawful; inferInstanceAs (LawfulHeap (ResultRegion t.R e.R)),
      fun h => letI := T.keeps h.1; letI := E.keeps h.2; inferInstanceAs (KeepsCaps (ResultRegion t.R e.R)),
      fun h => letI := T.clears h.1; letI := E.clears h.2; inferInstanceAs (ClearsToDefault (ResultRegion t.R e.R))⟩
  | _, _, .tupleNil => ⟨inferInstanceAs (LawfulHeap TupleNil), fun _ => inferInstanceAs (KeepsCaps TupleNil),
      fun _ => inferInstanceAs (ClearsToDefault TupleNil)⟩
  | _, _, .tupleCons a b =>
    have A := a.heapLaws; have B := b.heapLaws
    ⟨letI := A.lawful; letI := B.lawful; inferInstanceAs (LawfulHeap (TupleCons a.R b.R)),
      fun h => letI := A.keeps h.1; letI := B.keeps h.2; inferInstanceAs (KeepsCaps (TupleCons a.R b.R)),
      fun h => letI := A.clears h.1; letI := B.clears h.2; inferInstanceAs (ClearsToDefault (TupleCons a.R b.R))⟩
  | v, _, .collapse (ix := ix) d =>
    letI := v.hasEqv; letI := σ.index ix.ty
    have L := d.heapLaws
    ⟨letI := L.lawful; inferInstanceAs (LawfulHeap (CollapseSequence d.R ix.ty.interp)),
      fun h => letI := L.keeps h; inferInstanceAs (KeepsCaps (CollapseSequence d.R ix.ty.interp)),
      fun h => letI := L.clears h; inferInstanceAs (ClearsToDefault (CollapseSequence d.R ix.ty.interp))⟩
  | _, _, .slice d k =>
    letI := k.ops.aux; letI := k.heap.heapInv; letI := k.heap.lawfulHeap
    have L := d.heapLaws
    ⟨letI := L.lawful; inferInstanceAs (LawfulHeap (SliceRegion d.R k.bundle.O)),
      fun h => letI := L.keeps h; inferInstanceAs (KeepsCaps (SliceRegion d.R k.bundle.O)),
      fun h => letI := L.clears h; inferInstanceAs (ClearsToDefault (SliceRegion d.R k.bundle.O))⟩
  | _, _, .consec d k =>
    letI : RegionAux d.bundleX.R := d.aux
    letI : HeapInv d.bundleX.R := d.heapInv
    letI := k.ops.aux; letI := k.heap.heapInv; letI := k.heap.lawfulHeap
    have L := d.heapLaws
    ⟨letI : LawfulHeap d.bundleX.R := L.lawful; inferInstanceAs (LawfulHeap (ConsecPairs d.bundleX.R k.bundle.O)),
      fun h => letI : KeepsCaps d.bundleX.R := L.keeps h; inferInstanceAs (KeepsCaps (ConsecPairs d.bundleX.R k.bundle.O)),
      fun h => letI : ClearsToDefault d.bundleX.R := L.clears h
        inferInstanceAs (ClearsToDefault (ConsecPairs d.bundleX.R k.bundle.O))⟩
  | _, _, .columns (ix := ix) d k =>
    letI := σ.elem ix.ty; letI := k.ops.aux; letI := k.heap.heapInv; letI := k.heap.lawfulHeap
    have L := d.heapLaws
    ⟨letI := L.lawful; inferInstanceAs (LawfulHeap (ColumnsRegion d.R ix.ty.interp k.bundle.O)),
      fun h => letI := L.keeps h; inferInstanceAs (KeepsCaps (ColumnsRegion d.R ix.ty.interp k.bundle.O)),
      fun h => h.elim⟩
  | _, _, .codec => ⟨inferInstanceAs (LawfulHeap Codec.Region), fun h => h.elim,
      fun _ => inferInstanceAs (ClearsToDefault Codec.Region)⟩
  | _, _, .huffman => ⟨inferInstanceAs (LawfulHeap Huff.Container), fun _ => inferInstanceAs (KeepsCaps Huff.Container),
      fun _ => inferInstanceAs (ClearsToDefault Huff.Container)⟩
  | _, _, .huffmanU8 => ⟨inferInstanceAs (LawfulHeap HuffU8), fun _ => inferInstanceAs (KeepsCaps HuffU8),
      fun _ => inferInstanceAs (ClearsToDefault HuffU8)⟩
  | _, _, .stack d k =>
    letI := k.ops.aux; letI := k.heap.heapInv; letI := k.heap.lawfulHeap
    have L := d.heapLaws
    ⟨letI := L.lawful; inferInstanceAs (LawfulHeap (FlatStack d.R k.bundle.O)),
      fun h => letI := L.keeps h; inferInstanceAs (KeepsCaps (FlatStack d.R k.bundle.O)),
      fun h => letI := L.clears h; inferInstanceAs (ClearsToDefault (FlatStack d.R k.bundle.O))⟩

theorem RDesc.lawfulHeap {v : Ty} {ix : Ix} (d : RDesc v ix) : LawfulHeap d.R := d.heapLaws.lawful

instance lawfulHeapInst {v : Ty} {ix : Ix} (d : RDesc v ix) : LawfulHeap d.R := d.lawfulHeap

end Heap2

section C18Props
variable [SizeEnv] {v : Ty} {ix : Ix}

/-- **C18 for every composition** (coded ones included, as far as the model reports them: nothing
for `huffman` / `huffmanU8`, whose `heap_size` is `todo!()` in the crate — there `CapInv` is `True` and
`stored` is `0` —, the byte store as `(len, len)` for `codec`). In every state reachable through the whole
API — creation, push, clear, both reservation calls and merge over arbitrary reachable sources,
clone, clone_from (`Reach`; for a `stack` not `FlatStack::reserve` / `with_capacity`) —
* every vector has length ≤ capacity (`CapInv`) and every pair `heap_size` reports has used ≤ capacity;
* no push, and no sequence of pushes, decreases the bytes in use;
* `clear` does not increase them;
* the bytes in use cover `stored`: the payload bytes plus index entries computed from the contents
  by recursion over the description (no branch of a composite is forgotten). -/
theorem C18_every_composition (d : RDesc v ix) (r : d.R) (h : Reach r) :
    HeapInv.CapInv r ∧
    (∀ p ∈ RegionAux.heap r, p.1 ≤ p.2) ∧
    (∀ (r' : d.R) (x : v.interp) (j : ix.ty.interp), push r x = some (r', j) → totalUsed r ≤ totalUsed r') ∧
    (∀ (r' : d.R) (xs : List v.interp), C08.runPushes r xs = some r' → totalUsed r ≤ totalUsed r') ∧
    totalUsed (clear r) ≤ totalUsed r ∧
    Stored.stored r ≤ totalUsed r :=
  ⟨C18.reach_capInv r h, C18.used_le_cap r h, fun r' x j hp => C18.push_monotone r r' x j h hp,
   fun r' xs hp => C18.pushes_monotone r r' xs h hp, C18.clear_used r h, C18.lower_bound r h⟩

theorem C18_default_floor (d : RDesc v ix) (r : d.R) (xs : List v.interp)
    (hp : C08.runPushes (Region.default : d.R) xs = some r) : totalUsed (Region.default : d.R) ≤ totalUsed r :=
  C18.default_le_pushes r xs hp

/-- **C18 (clear keeps the allocations) for every composition without `codec`**: after `clear` the
same number of pairs is reported, no reported capacity is smaller than before, nor is their sum -/
theorem C18_clear_caps_every_composition (d : RDesc v ix) (hc : d.NoCodec) (r : d.R) (h : Reach r) :
    (capsOf r).length = (capsOf (clear r)).length ∧
    (∀ k (h1 : k < (capsOf r).length) (h2 : k < (capsOf (clear r)).length), (capsOf r)[k] ≤ (capsOf (clear r))[k]) ∧
    (capsOf r).sum ≤ (capsOf (clear r)).sum :=
  haveI := d.heapLaws.keeps hc
  ⟨(C18.clear_caps r h).1, (C18.clear_caps r h).2, C18.clear_caps_total r h⟩

/-- **C18 (clear forgets the payload) for every composition without `columns`**: a cleared region
accounts exactly what a fresh one does -/
theorem C18_clear_default_every_composition (d : RDesc v ix) (hc : d.NoColumns) (r : d.R) (h : Reach r) :
    totalUsed (clear r) = totalUsed (Region.default : d.R) :=
  haveI := d.heapLaws.clears hc
  C18.clear_used_default r h

/-- … and for `columns` over any description: the column vector itself, each cleared column and
the cleared row offsets remain; when the column description has no `columns` inside, that is the
structural bytes only -/
theorem C18_clear_columns (d : RDesc v ix) (k : IdxKind .nat) (r : ColumnsRegion d.R ix.ty.interp k.bundle.O) :
    letI := SizeEnv.elem ix.ty; letI := k.ops.aux
    (totalUsed (clear r) = r.cols.length * RegionAux.selfSize d.R + (r.cols.map fun c => totalUsed (clear c)).sum
      + totalUsed (clear r.indices)) ∧
    (d.NoColumns → Reach r → totalUsed (clear r) = r.cols.length * (RegionAux.selfSize d.R + totalUsed (Region.default : d.R))
      + totalUsed (Region.default : ConsecPairs (OwnedRegion ix.ty.interp) k.bundle.O)) :=
  letI := SizeEnv.elem ix.ty; letI := k.ops.aux; letI := k.heap.heapInv
  haveI := k.heap.lawfulHeap
  ⟨C18.clear_used_columns (R := d.R) (I := ix.ty.interp) (O := k.bundle.O) r,
   fun hc hr => haveI := d.heapLaws.clears hc; C18.clear_used_columns_default (R := d.R) (I := ix.ty.interp) (O := k.bundle.O) r hr⟩

end C18Props

def IdxKind.IsVec : {i : Ty} → IdxKind i → Prop
  | _, .vec _ => True
  | _, .opt => False
  | _, .list => False

instance IdxKind.decIsVec : {i : Ty} → (k : IdxKind i) → Decidable k.IsVec
  | _, .vec _ => isTrue trivial
  | _, .opt => isFalse id
  | _, .list => isFalse id

/-- what `Proofs/Caps.lean` and `CapsGrowth.lean` provide for slices and stacks over a `Vec` index
container, for any inner region -/
structure IdxSized {i : Ty} (k : IdxKind i) : Type 1 where
  slice : ∀ (R V : Type) [Region R V i.interp] [RegionAux R] [Sized R],
    letI := k.ops.aux; Sized (SliceRegion R k.bundle.O)
  slice_laws : ∀ (R V : Type) [Region R V i.interp] [RegionAux R] [Sized R] [LawfulSized R] [LawfulGrowth R],
    letI := k.ops.aux; letI := slice R V
    LawfulSized (SliceRegion R k.bundle.O) ∧ LawfulGrowth (SliceRegion R k.bundle.O)
  slice_reserve : ∀ (R V : Type) [Region R V i.interp] [RegionAux R] [Sized R] [LawfulSized R] [LawfulReserve R],
    letI := k.ops.aux; letI := slice R V
    LawfulReserve (SliceRegion R k.bundle.O)
  stack : ∀ (R V : Type) [Region R V i.interp] [RegionAux R] [Sized R],
    letI := k.ops.aux; Sized (FlatStack R k.bundle.O)
  stack_laws : ∀ (R V : Type) [Region R V i.interp] [RegionAux R] [Sized R] [LawfulSized R] [LawfulGrowth R],
    letI := k.ops.aux; letI := stack R V
    LawfulSized (FlatStack R k.bundle.O) ∧ LawfulGrowth (FlatStack R k.bundle.O)

def IdxKind.sized : {i : Ty} → (k : IdxKind i) → k.IsVec → IdxSized k
  | i, .vec sz, _ =>
    { slice := fun R _ _ _ _ => inferInstanceAs (Sized (SliceRegion R (Capd (VecIdx i.interp sz))))
      slice_laws := fun R _ _ _ _ _ _ =>
        ⟨inferInstanceAs (LawfulSized (SliceRegion R (Capd (VecIdx i.interp sz)))),
         inferInstanceAs (LawfulGrowth (SliceRegion R (Capd (VecIdx i.interp sz))))⟩
      slice_reserve := fun R _ _ _ _ _ _ => inferInstanceAs (LawfulReserve (SliceRegion R (Capd (VecIdx i.interp sz))))
      stack := fun R _ _ _ _ => inferInstanceAs (Sized (FlatStack R (Capd (VecIdx i.interp sz))))
      stack_laws := fun R _ _ _ _ _ _ =>
        ⟨inferInstanceAs (LawfulSized (FlatStack R (Capd (VecIdx i.interp sz)))),
         inferInstanceAs (LawfulGrowth (FlatStack R (Capd (VecIdx i.interp sz))))⟩ }
  | _, .opt, h => h.elim
  | _, .list, h => h.elim

def RDesc.VecSized : {v : Ty} → {ix : Ix} → RDesc v ix → Prop
  | _, _, .mirror _ => True
  | _, _, .owned _ => True
  | _, _, .vec _ => True
  | _, _, .string d => d.VecSized
  | _, _, .option d => d.VecSized
  | _, _, .result t e => t.VecSized ∧ e.VecSized
  | _, _, .tupleNil => True
  | _, _, .tupleCons a b => a.VecSized ∧ b.VecSized
  | _, _, .collapse _ => False
  | _, _, .slice d k => d.VecSized ∧ k.IsVec
  | _, _, .consec _ _ => False
  | _, _, .columns _ _ => False
  | _, _, .codec => False
  | _, _, .huffman => False
  | _, _, .huffmanU8 => False
  | _, _, .stack d k => d.VecSized ∧ k.IsVec

instance RDesc.decVecSized : {v : Ty} → {ix : Ix} → (d : RDesc v ix) → Decidable d.VecSized
  | _, _, .mirror _ => isTrue trivial
  | _, _, .owned _ => isTrue trivial
  | _, _, .vec _ => isTrue trivial
  | _, _, .string d => d.decVecSized
  | _, _, .option d => d.decVecSized
  | _, _, .result t e => @instDecidableAnd _ _ t.decVecSized e.decVecSized
  | _, _, .tupleNil => isTrue trivial
  | _, _, .tupleCons a b => @instDecidableAnd _ _ a.decVecSized b.decVecSized
  | _, _, .collapse _ => isFalse id
  | _, _, .slice d k => @instDecidableAnd _ _ d.decVecSized k.decIsVec
  | _, _, .consec _ _ => isFalse id
  | _, _, .columns _ _ => isFalse id
  | _, _, .codec => isFalse id
  | _, _, .huffman => isFalse id
  | _, _, .huffmanU8 => isFalse id
  | _, _, .stack d k => @instDecidableAnd _ _ d.decVecSized k.decIsVec

def RDesc.Reservable : {v : Ty} → {ix : Ix} → RDesc v ix → Prop
  | _, _, .mirror _ => True
  | _, _, .owned _ => True
  | _, _, .vec _ => True
  | _, _, .string d => d.Reservable
  | _, _, .option d => d.Reservable
  | _, _, .result t e => t.Reservable ∧ e.Reservable
  | _, _, .tupleNil => True
  | _, _, .tupleCons a b => a.Reservable ∧ b.Reservable
  | _, _, .collapse _ => False
  | _, _, .slice d k => d.Reservable ∧ k.IsVec
  | _, _, .consec _ _ => False
  | _, _, .columns _ _ => False
  | _, _, .codec => False
  | _, _, .huffman => False
  | _, _, .huffmanU8 => False
  | _, _, .stack _ _ => False

instance RDesc.decReservable : {v : Ty} → {ix : Ix} → (d : RDesc v ix) → Decidable d.Reservable
  | _, _, .mirror _ => isTrue trivial
  | _, _, .owned _ => isTrue trivial
  | _, _, .vec _ => isTrue trivial
  | _, _, .string d => d.decReservable
  | _, _, .option d => d.decReservable
  | _, _, .result t e => @instDecidableAnd _ _ t.decReservable e.decReservable
  | _, _, .tupleNil => isTrue trivial
  | _, _, .tupleCons a b => @instDecidableAnd _ _ a.decReservable b.decReservable
  | _, _, .collapse _ => isFalse id
  | _, _, .slice d k => @instDecidableAnd _ _ d.decReservable k.decIsVec
  | _, _, .consec _ _ => isFalse id
  | _, _, .columns _ _ => isFalse id
  | _, _, .codec => isFalse id
  | _, _, .huffman => isFalse id
  | _, _, .huffmanU8 => isFalse id
  | _, _, .stack _ _ => isFalse id

theorem RDesc.vecSized_of_reservable : {v : Ty} → {ix : Ix} → (d : RDesc v ix) → d.Reservable → d.VecSized
  | _, _, .mirror _, _ => trivial
  | _, _, .owned _, _ => trivial
  | _, _, .vec _, _ => trivial
  | _, _, .string d, h => d.vecSized_of_reservable h
  | _, _, .option d, h => d.vecSized_of_reservable h
  | _, _, .result t e, h => ⟨t.vecSized_of_reservable h.1, e.vecSized_of_reservable h.2⟩
  | _, _, .tupleNil, _ => trivial
  | _, _, .tupleCons a b, h => ⟨a.vecSized_of_reservable h.1, b.vecSized_of_reservable h.2⟩
  | _, _, .slice d _, h => ⟨d.vecSized_of_reservable h.1, h.2⟩

section SizedDefs
variable [σ : SizeEnv]

@[instance_reducible] def RDesc.sized : {v : Ty} → {ix : Ix} → (d : RDesc v ix) → d.VecSized → Sized d.R
  | _, _, .mirror t, _ => inferInstanceAs (Sized (MirrorRegion t.interp))
  | _, _, .owned t, _ => letI := σ.elem t; inferInstanceAs (Sized (OwnedRegion t.interp))
  | _, _, .vec t, _ => letI := σ.elem t; inferInstanceAs (Sized (VecRegion t.interp))
  | _, .any i, .string d, h =>
    letI : Region d.R (List UInt8) i.interp := d.bundle.inst
    letI : RegionAux d.R := d.aux
    letI : Sized d.R := d.sized h
    inferInstanceAs (Sized (StringRegion d.R))
  | _, .dense, .string d, h =>
    letI : Region d.R (List UInt8) (Nat × Nat) := d.bundle.inst
    letI : RegionAux d.R := d.aux
    letI : Sized d.R := d.sized h
    inferInstanceAs (Sized (StringRegion d.R))
  | _, _, .option d, h => letI := d.sized h; inferInstanceAs (Sized (OptionRegion d.R))
  | _, _, .result t e, h => letI := t.sized h.1; letI := e.sized h.2; inferInstanceAs (Sized (ResultRegion t.R e.R))
  | _, _, .tupleNil, _ => inferInstanceAs (Sized TupleNil)
  | _, _, .tupleCons a b, h => letI := a.sized h.1; letI := b.sized h.2; inferInstanceAs (Sized (TupleCons a.R b.R))
  | _, _, .slice d k, h => letI := d.sized h.1; (k.sized h.2).slice d.R _
  | _, _, .stack d k, h => letI := d.sized h.1; (k.sized h.2).stack d.R _

structure SizedLaws {v : Ty} {ix : Ix} (d : RDesc v ix) (h : d.VecSized) : Prop where
  lawful : @LawfulSized d.R _ _ d.bundle.inst d.aux (d.sized h)
  growth : @LawfulGrowth d.R _ _ d.bundle.inst d.aux (d.sized h)

theorem RDesc.sizedReserveLaws : {v : Ty} → {ix : Ix} → (d : RDesc v ix) → (h : d.VecSized) →
    SizedLaws d h ∧ (d.Reservable → @LawfulReserve d.R _ _ d.bundle.inst d.aux (d.sized h))
  | _, _, .mirror t, _ =>
    ⟨⟨inferInstanceAs (LawfulSized (MirrorRegion t.interp)), inferInstanceAs (LawfulGrowth (MirrorRegion t.interp))⟩,
      fun _ => inferInstanceAs (LawfulReserve (MirrorRegion t.interp))⟩
  | _, _, .owned t, _ =>
    letI := σ.elem t
    ⟨⟨inferInstanceAs (LawfulSized (OwnedRegion t.interp)), inferInstanceAs (LawfulGrowth (OwnedRegion t.interp))⟩,
      fun _ => inferInstanceAs (LawfulReserve (OwnedRegion t.interp))⟩
  | _, _, .vec t, _ =>
    letI := σ.elem t
    ⟨⟨inferInstanceAs (LawfulSized (VecRegion t.interp)), inferInstanceAs (LawfulGrowth (VecRegion t.interp))⟩,
      fun _ => inferInstanceAs (LawfulReserve (VecRegion t.interp))⟩
  | _, .any i, .string d, h =>
    letI : Region d.R (List UInt8) i.interp := d.bundle.inst
    letI : RegionAux d.R := d.aux
    letI : Sized d.R := d.sized h
    have L := d.sizedReserveLaws h
    letI := L.1.lawful; letI := L.1.growth
    ⟨⟨inferInstanceAs (LawfulSized (StringRegion d.R)), inferInstanceAs (LawfulGrowth (StringRegion d.R))⟩,
      fun hr => letI := L.2 hr; inferInstanceAs (LawfulReserve (StringRegion d.R))⟩
  | _, .dense, .string d, h =>
    letI : Region d.R (List UInt8) (Nat × Nat) := d.bundle.inst
    letI : RegionAux d.R := d.aux
    letI : Sized d.R := d.sized h
    have L := d.sizedReserveLaws h
    letI := L.1.lawful; letI := L.1.growth
    ⟨⟨inferInstanceAs (LawfulSized (StringRegion d.R)), inferInstanceAs (LawfulGrowth (StringRegion d.R))⟩,
      fun hr => letI := L.2 hr; inferInstanceAs (LawfulReserve (StringRegion d.R))⟩
  | _, _, .option d, h =>
    letI := d.sized h
    have L := d.sizedReserveLaws h
    letI := L.1.lawful; letI := L.1.growth
    ⟨⟨inferInstanceAs (LawfulSized (OptionRegion d.R)), inferInstanceAs (LawfulGrowth (OptionRegion d.R))⟩,
      fun hr => letI := L.2 hr; inferInstanceAs (LawfulReserve (OptionRegion d.R))⟩
  | _, _, .result t e, h =>
    letI := t.sized h.1; letI := e.sized h.2
    have T := t.sizedReserveLaws h.1; have E := e.sizedReserveLaws h.2
    letI := T.1.lawful; letI := T.1.growth; letI := E.1.lawful; letI := E.1.growth
    ⟨⟨inferInstanceAs (LawfulSized (ResultRegion t.R e.R)), inferInstanceAs (LawfulGrowth (ResultRegion t.R e.R))⟩,
      fun hr => letI := T.2 hr.1; letI := E.2 hr.2; inferInstanceAs (LawfulReserve (ResultRegion t.R e.R))⟩
  | _, _, .tupleNil, _ =>
    ⟨⟨inferInstanceAs (LawfulSized TupleNil), inferInstanceAs (LawfulGrowth TupleNil)⟩,
      fun _ => inferInstanceAs (LawfulReserve TupleNil)⟩
  | _, _, .tupleCons a b, h =>
    letI := a.sized h.1; letI := b.sized h.2
    have A := a.sizedReserveLaws h.1; have B := b.sizedReserveLaws h.2
    letI := A.1.lawful; letI := A.1.growth; letI := B.1.lawful; letI := B.1.growth
    ⟨⟨inferInstanceAs (LawfulSized (TupleCons a.R b.R)), inferInstanceAs (LawfulGrowth (TupleCons a.R b.R))⟩,
      fun hr => letI := A.2 hr.1; letI := B.2 hr.2; inferInstanceAs (LawfulReserve (TupleCons a.R b.R))⟩
  | _, _, .slice d k, h =>
    letI := d.sized h.1
    have L := d.sizedReserveLaws h.1
    letI := L.1.lawful; letI := L.1.growth
    ⟨⟨((k.sized h.2).slice_laws d.R _).1, ((k.sized h.2).slice_laws d.R _).2⟩,
      fun hr => letI := L.2 hr.1; (k.sized h.2).slice_reserve d.R _⟩
  | _, _, .stack d k, h =>
    letI := d.sized h.1
    have L := d.sizedReserveLaws h.1
    letI := L.1.lawful; letI := L.1.growth
    ⟨⟨((k.sized h.2).stack_laws d.R _).1, ((k.sized h.2).stack_laws d.R _).2⟩, fun hr => hr.elim⟩

theorem RDesc.sizedLaws {v : Ty} {ix : Ix} (d : RDesc v ix) (h : d.VecSized) : SizedLaws d h := (d.sizedReserveLaws h).1

theorem RDesc.lawfulReserve {v : Ty} {ix : Ix} (d : RDesc v ix) (h : d.Reservable) :
    @LawfulReserve d.R _ _ d.bundle.inst d.aux (d.sized (d.vecSized_of_reservable h)) :=
  (d.sizedReserveLaws (d.vecSized_of_reservable h)).2 h

end SizedDefs

section C17Props
variable [SizeEnv] {v : Ty} {ix : Ix}
open Sized C08

/-- for every vector-backed composition (`d.VecSized`): the bookkeeping invariant `CInv` (the
hypothesis of the theorems below) and `lens ≤ caps` hold in every state built from empty by push,
clear, the two reservation calls and `merge_regions` (`C17.Built`; not `clone` / `clone_from`) -/
theorem C17_built_every_composition (d : RDesc v ix) (hs : d.VecSized) (r : d.R) (h : C17.Built r) :
    letI := d.sized hs
    CInv r ∧ vle (lens r) (caps r) :=
  letI := d.sized hs
  haveI := (d.sizedLaws hs).lawful
  haveI := (d.sizedLaws hs).growth
  C17.built_inv r h

/-- a batch whose total growth fits the spare capacity of every vector leaves every capacity
unchanged; capacities never shrink under pushes -/
theorem C17_fit_every_composition (d : RDesc v ix) (hs : d.VecSized) (r r' : d.R) (xs : List v.interp) :
    letI := d.sized hs
    CInv r → runPushes r xs = some r' →
      CInv r' ∧ vle (caps r) (caps r') ∧ (vle (vadd (lens r) (growAll (R := d.R) xs)) (caps r) → caps r' = caps r) :=
  letI := d.sized hs
  haveI := (d.sizedLaws hs).lawful
  fun hc h =>
    have ⟨hc', hm⟩ := runPushes_moves hc h
    ⟨hc', hm.mono, hm.fit⟩

/-- **C17 (merge) for every vector-backed composition**: after `merge_regions(regions)` (for a
`stack`: `FlatStack::merge_capacity`), pushing contents that need at most the announced room in every
vector changes no capacity, and `heap_size` reports the same capacities before and after -/
theorem C17_merge_every_composition (d : RDesc v ix) (hs : d.VecSized) (rs : List d.R) (xs : List v.interp) (r' : d.R) :
    letI := d.sized hs
    vle (growAll (R := d.R) xs) (lensAll rs) → runPushes (RegionAux.mergeRegions rs) xs = some r' →
      caps r' = caps (RegionAux.mergeRegions rs : d.R) ∧
      (RegionAux.heap r').map (·.2) = (RegionAux.heap (RegionAux.mergeRegions rs : d.R)).map (·.2) :=
  letI := d.sized hs
  haveI := (d.sizedLaws hs).lawful
  fun hvs h => (C17.hasRoom_merge rs).no_growth hvs h

/-- end to end: merge regions that were built by pushing, push all of their contents: no growth -/
theorem C17_merge_sources_every_composition (d : RDesc v ix) (hs : d.VecSized) (srcs : List (d.R × List v.interp))
    (hsrc : ∀ p ∈ srcs, runPushes (Region.default : d.R) p.2 = some p.1) (r' : d.R)
    (h : runPushes (RegionAux.mergeRegions (srcs.map (·.1))) (srcs.map (·.2)).flatten = some r') :
    letI := d.sized hs
    caps r' = caps (RegionAux.mergeRegions (srcs.map (·.1)) : d.R) :=
  letI := d.sized hs
  haveI := (d.sizedLaws hs).lawful
  C17.no_growth_merge_sources srcs hsrc r' h

/-- **C17 (reserve) for every reservable composition**: after `reserve_items(items)`, pushing exactly
`items`, and after `reserve_regions(regions)`, pushing contents that need at most the announced room,
changes no capacity — `r` empty or populated — and `heap_size` reports the same capacities -/
theorem C17_reserve_every_composition (d : RDesc v ix) (hr : d.Reservable) (r r' : d.R) :
    letI := d.sized (d.vecSized_of_reservable hr)
    CInv r →
      (∀ xs : List v.interp, runPushes (RegionAux.reserveItems r xs) xs = some r' →
        caps r' = caps (RegionAux.reserveItems r xs) ∧
        (RegionAux.heap r').map (·.2) = (RegionAux.heap (RegionAux.reserveItems r xs)).map (·.2)) ∧
      (∀ (rs : List d.R) (xs : List v.interp), vle (growAll (R := d.R) xs) (lensAll rs) →
        runPushes (RegionAux.reserveRegions r rs) xs = some r' →
        caps r' = caps (RegionAux.reserveRegions r rs) ∧
        (RegionAux.heap r').map (·.2) = (RegionAux.heap (RegionAux.reserveRegions r rs)).map (·.2)) :=
  letI := d.sized (d.vecSized_of_reservable hr)
  haveI := (d.sizedLaws (d.vecSized_of_reservable hr)).lawful
  haveI := d.lawfulReserve hr
  fun hc =>
    ⟨fun xs h => (C17.hasRoom_reserveItems r xs hc).no_growth (vle_refl _) h,
     fun rs _ hvs h => (C17.hasRoom_reserveRegions r rs hc).no_growth hvs h⟩

/-- `clear` keeps every allocation: refilling a cleared region with no more than it held changes no
capacity -/
theorem C17_clear_every_composition (d : RDesc v ix) (hs : d.VecSized) (r r' : d.R) (xs : List v.interp) :
    letI := d.sized hs
    CInv r → vle (lens r) (caps r) → vle (growAll (R := d.R) xs) (lens r) → runPushes (clear r) xs = some r' →
      caps r' = caps r :=
  letI := d.sized hs
  haveI := (d.sizedLaws hs).lawful
  haveI := (d.sizedLaws hs).growth
  fun hc hw hvs h => C17.no_growth_after_clear r r' xs hc hw hvs h

/-- **C17 without pre-sizing, for every vector-backed composition**: along any batch of pushes the
`j`-th capacity changes at most `log2 (its final value) + 1` times, and every change at least
doubles it -/
theorem C17_log_growth_every_composition (d : RDesc v ix) (hs : d.VecSized) (r r' : d.R) (xs : List v.interp) (j : Nat) :
    letI := d.sized hs
    CInv r →
      (runPushes r xs = some r' →
        changes ((caps r).getD j 0) ((capsTrace r xs).map (·.getD j 0)) ≤ Nat.log2 ((caps r').getD j 0) + 1) ∧
      (∀ (x : v.interp) (i : ix.ty.interp), push r x = some (r', i) → (caps r').getD j 0 ≠ (caps r).getD j 0 →
        2 * (caps r).getD j 0 ≤ (caps r').getD j 0) :=
  letI := d.sized hs
  haveI := (d.sizedLaws hs).lawful
  haveI := (d.sizedLaws hs).growth
  fun hc => ⟨fun h => C17.log_growth r r' xs hc h j, fun x i hp hne => C17.push_doubles r r' x i hc hp j hne⟩

end C17Props

section
open C08

theorem reach_of_reachable_pushes {R V I : Type} [Region R V I] [RegionAux R] (r : R) (xs : List V)
    (h : runPushes (Region.default : R) xs = some r) : Reach r :=
  C18.reach_pushes _ r xs Reach.default h

theorem built_of_pushes {R V I : Type} [Region R V I] [RegionAux R] (r0 r : R) (xs : List V) (h0 : C17.Built r0)
    (h : runPushes r0 xs = some r) : C17.Built r :=
  (pushes_of_runPushes h).closed C17.Built.push h0
end

section Examples
open Sized C08

abbrev exVecStack : RDesc (.list .bytes) (.any .nat) := .stack (.slice str pairIdx) pairIdx
abbrev exDeepSlice : RDesc (.list (.list (.list (.list (.list .nat))))) .dense :=
  .slice (.slice (.slice (.slice (.slice (.mirror .nat) (.vec 1)) pairIdx) pairIdx) pairIdx) pairIdx

example : exColumns.NoCodec ∧ ¬ exColumns.NoColumns := by decide
example : exStack.NoCodec ∧ exStack.NoColumns := by decide
example : exTuple.NoCodec ∧ exTuple.NoColumns := by decide
example : exSlice.NoCodec ∧ exSlice.NoColumns := by decide
example : exResult.NoCodec ∧ exResult.NoColumns := by decide
example : ¬ exCodec.NoCodec ∧ exCodec.NoColumns := by decide
example : exHuff.NoCodec ∧ exHuff.NoColumns := by decide
example : exTuple.VecSized ∧ exTuple.Reservable := by decide
example : exSlice.VecSized ∧ exSlice.Reservable := by decide
example : exDeepSlice.VecSized ∧ exDeepSlice.Reservable := by decide
example : exOddSize.VecSized ∧ exOddSize.Reservable := by decide
example : exResult.VecSized ∧ ¬ exResult.Reservable := by decide
example : exVecStack.VecSized ∧ ¬ exVecStack.Reservable := by decide
example : (RDesc.option (.option (.vec .bytes))).VecSized ∧ (RDesc.option (.option (.vec .bytes))).Reservable := by decide
example : ¬ exColumns.VecSized := by decide
example : ¬ exStack.VecSized := by decide   -- a consec region inside, and `IndexOptimized` offsets
example : ¬ exCollapse.VecSized := by decide
example : ¬ (RDesc.slice (.mirror .nat) .opt).VecSized := by decide
example : ¬ exCodec.VecSized := by decide

-- the extensions are over the same type `d.R`
example {v : Ty} {ix : Ix} (d : RDesc v ix) [SizeEnv] : @HeapInv d.bundle.R _ _ d.bundle.inst d.aux := d.heapInv
example {v : Ty} {ix : Ix} (d : RDesc v ix) [SizeEnv] (h : d.VecSized) : @Sized d.bundle.R _ _ d.bundle.inst d.aux := d.sized h

section Std
attribute [local instance] SizeEnv.std

section Agrees
-- sealed for the reason given in UniverseOps (`section Agrees`)
attribute [local irreducible] instRegionMirrorRegion instRegionOwnedRegionListProdNat instRegionVecRegionNat instRegionStringRegionListUInt8 instRegionOptionRegionOption instRegionResultRegionExcept
  instRegionTupleNilUnit instRegionTupleConsProd instRegionCollapseSequenceOfHasEqv instRegionSliceRegionListProdNat instRegionConsecPairsNatOfDenseRegionOfIdxCont
  instRegionColumnsRegionListNat instRegionRegionListUInt8ProdNat instRegionContainerListNatProd instRegionHuffU8ListUInt8ProdNat instRegionFlatStackNat
-- with the standard sizes the instances are the ones instance resolution finds
example : exColumns.heapInv = (inferInstance : HeapInv (ColumnsRegion (CollapseSequence (ConsecPairs
    (StringRegion (OwnedRegion UInt8)) (Capd IndexOptimized)) Nat) Nat (Capd IndexOptimized))) := rfl
example : exColumns.stored = (inferInstance : Stored (ColumnsRegion (CollapseSequence (ConsecPairs
    (StringRegion (OwnedRegion UInt8)) (Capd IndexOptimized)) Nat) Nat (Capd IndexOptimized))) := rfl
example : exStack.heapInv = (inferInstance : HeapInv (FlatStack (ConsecPairs (OwnedRegion UInt8) (Capd IndexList))
    (Capd IndexOptimized))) := rfl
example : exStack.stored = (inferInstance : Stored (FlatStack (ConsecPairs (OwnedRegion UInt8) (Capd IndexList))
    (Capd IndexOptimized))) := rfl
example : exTuple.heapInv = (inferInstance : HeapInv (TupleCons (OptionRegion (StringRegion (OwnedRegion UInt8)))
    (TupleCons (ResultRegion (OwnedRegion Nat) (MirrorRegion Nat)) TupleNil))) := rfl
example : exTuple.stored = (inferInstance : Stored (TupleCons (OptionRegion (StringRegion (OwnedRegion UInt8)))
    (TupleCons (ResultRegion (OwnedRegion Nat) (MirrorRegion Nat)) TupleNil))) := rfl
example : exSlice.heapInv = (inferInstance : HeapInv (SliceRegion (SliceRegion (StringRegion (OwnedRegion UInt8))
    (Capd (VecIdx (Nat × Nat) 16))) (Capd (VecIdx (Nat × Nat) 16)))) := rfl
example : exResult.stored = (inferInstance : Stored (FlatStack (ResultRegion (SliceRegion (MirrorRegion Nat)
    (Capd (VecIdx Nat 1))) (StringRegion (OwnedRegion UInt8))) (Capd (VecIdx (Except (Nat × Nat) (Nat × Nat)) 24)))) := rfl
example : exCodec.heapInv = (inferInstance : HeapInv (FlatStack (ConsecPairs Codec.Region (Capd IndexOptimized))
    (Capd IndexList))) := rfl
example : exHuff.stored = (inferInstance : Stored (SliceRegion HuffU8 (Capd (VecIdx (Nat × Nat) 16)))) := rfl
example : exTuple.sized (by decide) = (inferInstance : Sized (TupleCons (OptionRegion (StringRegion (OwnedRegion UInt8)))
    (TupleCons (ResultRegion (OwnedRegion Nat) (MirrorRegion Nat)) TupleNil))) := rfl
example : exSlice.sized (by decide) = (inferInstance : Sized (SliceRegion (SliceRegion (StringRegion (OwnedRegion UInt8))
    (Capd (VecIdx (Nat × Nat) 16))) (Capd (VecIdx (Nat × Nat) 16)))) := rfl
example : exResult.sized (by decide) = (inferInstance : Sized (FlatStack (ResultRegion (SliceRegion (MirrorRegion Nat)
    (Capd (VecIdx Nat 1))) (StringRegion (OwnedRegion UInt8))) (Capd (VecIdx (Except (Nat × Nat) (Nat × Nat)) 24)))) := rfl
example : exVecStack.sized (by decide) = (inferInstance : Sized (FlatStack (SliceRegion (StringRegion (OwnedRegion UInt8))
    (Capd (VecIdx (Nat × Nat) 16))) (Capd (VecIdx (Nat × Nat) 16)))) := rfl
example : exDeepSlice.sized (by decide) = (inferInstance : Sized (SliceRegion (SliceRegion (SliceRegion (SliceRegion
    (SliceRegion (MirrorRegion Nat) (Capd (VecIdx Nat 1))) (Capd (VecIdx (Nat × Nat) 16))) (Capd (VecIdx (Nat × Nat) 16)))
    (Capd (VecIdx (Nat × Nat) 16))) (Capd (VecIdx (Nat × Nat) 16)))) := rfl
end Agrees

/-- C18 at a populated state of the deep nesting: the report, before and after `clear`; the
theorems apply -/
example : (runPushes (Region.default : exColumns.R) [[[104, 105], []], [[1, 2, 3]], [[1, 2, 3], [1], [1]]]).map
      (fun r => (RegionAux.heap r, RegionAux.heap (clear r), Stored.stored r, totalUsed r))
    = some ([(384, 384), (4, 4), (0, 0), (5, 5), (4, 4), (0, 0), (1, 1), (0, 0), (0, 0), (1, 1), (8, 8), (0, 0), (48, 64)],
            [(384, 384), (0, 4), (0, 0), (0, 5), (0, 4), (0, 0), (0, 1), (0, 0), (0, 0), (0, 1), (0, 8), (0, 0), (0, 64)],
            455, 455) := by decide
example (r : exColumns.R) (h : runPushes (Region.default : exColumns.R) [[[104, 105], []], [[1, 2, 3]], [[1, 2, 3], [1], [1]]] = some r) :
    (∀ p ∈ RegionAux.heap r, p.1 ≤ p.2) ∧ Stored.stored r ≤ totalUsed r ∧ (capsOf r).sum ≤ (capsOf (clear r)).sum :=
  have hr := reach_of_reachable_pushes r _ h
  ⟨(C18_every_composition exColumns r hr).2.1, (C18_every_composition exColumns r hr).2.2.2.2.2,
   (C18_clear_caps_every_composition exColumns (by decide) r hr).2.2⟩
example (r : exStack.R) (h : runPushes (Region.default : exStack.R) [[1, 2], [], [3]] = some r) :
    (∀ p ∈ RegionAux.heap r, p.1 ≤ p.2) ∧ totalUsed (clear r) = totalUsed (Region.default : exStack.R) :=
  have hr := reach_of_reachable_pushes r _ h
  ⟨(C18_every_composition exStack r hr).2.1, C18_clear_default_every_composition exStack (by decide) r hr⟩
example : (runPushes (Region.default : exStack.R) [[1, 2], [], [3]]).map (fun r => (RegionAux.heap r, Stored.stored r)) =
    some ([(16, 16), (0, 0), (3, 4), (0, 0), (0, 0)], 19) := by decide
example (r : exTuple.R) (h : runPushes (Region.default : exTuple.R) [(some [1, 2], (.ok [5, 6], ())), (none, (.error 7, ()))] = some r) :
    (∀ p ∈ RegionAux.heap r, p.1 ≤ p.2) ∧ totalUsed (clear r) = totalUsed (Region.default : exTuple.R) ∧
      (capsOf r).sum ≤ (capsOf (clear r)).sum :=
  have hr := reach_of_reachable_pushes r _ h
  ⟨(C18_every_composition exTuple r hr).2.1, C18_clear_default_every_composition exTuple (by decide) r hr,
   (C18_clear_caps_every_composition exTuple (by decide) r hr).2.2⟩
example : (runPushes (Region.default : exTuple.R) [(some [1, 2], (.ok [5, 6], ())), (none, (.error 7, ()))]).map
    (fun r => (RegionAux.heap r, Stored.stored r)) = some ([(2, 2), (16, 16)], 18) := by decide
example (r : exSlice.R) (h : runPushes (Region.default : exSlice.R) [[[[1], [2, 3]]], [[], [[7]]]] = some r) :
    (∀ p ∈ RegionAux.heap r, p.1 ≤ p.2) ∧ Stored.stored r ≤ totalUsed r :=
  have hr := reach_of_reachable_pushes r _ h
  ⟨(C18_every_composition exSlice r hr).2.1, (C18_every_composition exSlice r hr).2.2.2.2.2⟩
example (r : exResult.R) (h : runPushes (Region.default : exResult.R) [.ok [1, 2, 3], .error [9]] = some r) :
    (∀ p ∈ RegionAux.heap r, p.1 ≤ p.2) ∧ totalUsed (clear r) = totalUsed (Region.default : exResult.R) :=
  have hr := reach_of_reachable_pushes r _ h
  ⟨(C18_every_composition exResult r hr).2.1, C18_clear_default_every_composition exResult (by decide) r hr⟩
example (r : exCodec.R) (hr : Reach r) : (∀ p ∈ RegionAux.heap r, p.1 ≤ p.2) ∧
    totalUsed (clear r) = totalUsed (Region.default : exCodec.R) :=
  ⟨(C18_every_composition exCodec r hr).2.1, C18_clear_default_every_composition exCodec (by decide) r hr⟩
example (r : exHuff.R) (hr : Reach r) : (capsOf r).sum ≤ (capsOf (clear r)).sum :=
  (C18_clear_caps_every_composition exHuff (by decide) r hr).2.2

def exBatch : List (List (List (List UInt8))) := [[[[100, 101], []]], [], [[[102]], []]]
example : ∃ r r' : exSlice.R, runPushes (Region.default : exSlice.R) [[[[97], [98, 99]]]] = some r ∧
    runPushes (RegionAux.reserveItems r exBatch) exBatch = some r' ∧
    (letI := exSlice.sized (by decide); lens r = [1, 2, 3] ∧ lens r' = [4, 5, 6] ∧
      caps (RegionAux.reserveItems r exBatch) = [4, 5, 6] ∧ caps r' = [4, 5, 6]) :=
  ⟨_, _, rfl, rfl, by decide⟩
example (r r' : exSlice.R) (h0 : runPushes (Region.default : exSlice.R) [[[[97], [98, 99]]]] = some r)
    (h : runPushes (RegionAux.reserveItems r exBatch) exBatch = some r') :
    letI := exSlice.sized (by decide)
    caps r' = caps (RegionAux.reserveItems r exBatch) :=
  have hb := built_of_pushes _ r _ C17.Built.default h0
  ((C17_reserve_every_composition exSlice (by decide) r r' (C17_built_every_composition exSlice (by decide) r hb).1).1 exBatch h).1
example (a b r' : exTuple.R) (ha : runPushes (Region.default : exTuple.R) [(some [1, 2], (.ok [5, 6], ()))] = some a)
    (hb : runPushes (Region.default : exTuple.R) [(none, (.error 7, ())), (some [3], (.ok [], ()))] = some b)
    (h : runPushes (RegionAux.mergeRegions [a, b]) [(some [1, 2], (.ok [5, 6], ())), (none, (.error 7, ())), (some [3], (.ok [], ()))] = some r') :
    letI := exTuple.sized (by decide)
    caps r' = caps (RegionAux.mergeRegions [a, b] : exTuple.R) :=
  C17_merge_sources_every_composition exTuple (by decide)
    [(a, [(some [1, 2], (.ok [5, 6], ()))]), (b, [(none, (.error 7, ())), (some [3], (.ok [], ()))])]
    (List.forall_mem_cons.mpr ⟨ha, List.forall_mem_singleton.mpr hb⟩) r' h
example : ∃ a b r' : exTuple.R, runPushes (Region.default : exTuple.R) [(some [1, 2], (.ok [5, 6], ()))] = some a ∧
    runPushes (Region.default : exTuple.R) [(none, (.error 7, ())), (some [3], (.ok [], ()))] = some b ∧
    runPushes (RegionAux.mergeRegions [a, b]) [(some [1, 2], (.ok [5, 6], ())), (none, (.error 7, ())), (some [3], (.ok [], ()))] = some r' ∧
    (letI := exTuple.sized (by decide); caps (RegionAux.mergeRegions [a, b] : exTuple.R) = [3, 2] ∧ caps r' = [3, 2]) :=
  ⟨_, _, _, rfl, rfl, rfl, by decide⟩
example (r r' : exVecStack.R) (xs : List (List (List UInt8))) (j : Nat) (hb : C17.Built r) (h : runPushes r xs = some r') :
    letI := exVecStack.sized (by decide)
    changes ((caps r).getD j 0) ((capsTrace r xs).map (·.getD j 0)) ≤ Nat.log2 ((caps r').getD j 0) + 1 :=
  ((C17_log_growth_every_composition exVecStack (by decide) r r' xs j) (C17_built_every_composition exVecStack (by decide) r hb).1).1 h
example : ∃ s r' : exVecStack.R, runPushes (Region.default : exVecStack.R) [[[1], [2, 3]], []] = some s ∧
    runPushes (RegionAux.mergeRegions [s, s]) [[[1], [2, 3]], [], [[1], [2, 3]], []] = some r' ∧
    (letI := exVecStack.sized (by decide); caps (RegionAux.mergeRegions [s, s] : exVecStack.R) = [4, 6, 4] ∧ caps r' = [4, 6, 4]) :=
  ⟨_, _, rfl, rfl, by decide⟩
example (r r' : exResult.R) (xs : List (Except (List UInt8) (List Nat))) (hb : C17.Built r)
    (hfit : letI := exResult.sized (by decide); vle (growAll (R := exResult.R) xs) (lens r))
    (h : runPushes (clear r) xs = some r') :
    letI := exResult.sized (by decide)
    caps r' = caps r :=
  have hi := C17_built_every_composition exResult (by decide) r hb
  C17_clear_every_composition exResult (by decide) r r' xs hi.1 hi.2 hfit h
example (r r' : exDeepSlice.R) (hb : C17.Built r) (xs : List (List (List (List (List (List Nat))))))
    (h : runPushes (RegionAux.reserveItems r xs) xs = some r') :
    letI := exDeepSlice.sized (by decide)
    caps r' = caps (RegionAux.reserveItems r xs) :=
  ((C17_reserve_every_composition exDeepSlice (by decide) r r' (C17_built_every_composition exDeepSlice (by decide) r hb).1).1 xs h).1
example (r r' : exOddSize.R) (hb : C17.Built r) (xs : List (List (List (Option F64))))
    (h : runPushes (RegionAux.reserveItems r xs) xs = some r') :
    letI := exOddSize.sized (by decide)
    caps r' = caps (RegionAux.reserveItems r xs) :=
  ((C17_reserve_every_composition exOddSize (by decide) r r' (C17_built_every_composition exOddSize (by decide) r hb).1).1 xs h).1

end Std
end Examples

end FC.Universe
