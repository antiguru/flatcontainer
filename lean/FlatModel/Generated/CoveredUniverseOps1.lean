-- @generated by tools/gen_covered_universe_ops.py from Generated/CoveredUniverse.lean, CoveredOps.lean, CoveredSer.lean, CoveredHeap.lean -- do not edit
import FlatModel.Props.UniverseSer
import FlatModel.Props.UniverseHeap
import FlatModel.Generated.CoveredOps
import FlatModel.Generated.CoveredSer
import FlatModel.Generated.CoveredHeap
/-! Part 1 of 4 of what Generated/CoveredUniverseOps.lean describes. -/
set_option synthInstance.maxHeartbeats 400000
set_option synthInstance.maxSize 2048
namespace FC.CoveredUniverseOps
open FC FC.Universe
attribute [local instance] SizeEnv.std
attribute [local irreducible] instRegionMirrorRegion instRegionOwnedRegionListProdNat instRegionVecRegionNat instRegionStringRegionListUInt8 instRegionOptionRegionOption instRegionResultRegionExcept instRegionTupleNilUnit instRegionTupleConsProd instRegionCollapseSequenceOfHasEqv instRegionSliceRegionListProdNat instRegionConsecPairsNatOfDenseRegionOfIdxCont instRegionColumnsRegionListNat instRegionRegionListUInt8ProdNat instRegionContainerListNatProd instRegionHuffU8ListUInt8ProdNat instRegionFlatStackNat
example : (RDesc.mirror .nat).aux = (inferInstance : RegionAux (MirrorRegion Nat)) := rfl
example : (RDesc.mirror .nat).heapInv = (inferInstance : HeapInv (MirrorRegion Nat)) := rfl
example : (RDesc.mirror .nat).stored = (inferInstance : Stored (MirrorRegion Nat)) := rfl
example : (RDesc.mirror .nat).Uncoded := by decide
example : (RDesc.mirror .nat).ser (by decide) = (inferInstance : Ser (MirrorRegion Nat)) := rfl
example : (RDesc.mirror .nat).sized (by decide) = (inferInstance : Sized (MirrorRegion Nat)) := rfl
example : (RDesc.mirror .nat).Reservable := by decide
example : (RDesc.owned .nat).aux = (inferInstance : RegionAux (OwnedRegion Nat)) := rfl
example : (RDesc.owned .nat).heapInv = (inferInstance : HeapInv (OwnedRegion Nat)) := rfl
example : (RDesc.owned .nat).stored = (inferInstance : Stored (OwnedRegion Nat)) := rfl
example : (RDesc.owned .nat).Uncoded := by decide
example : (RDesc.owned .nat).ser (by decide) = (inferInstance : Ser (OwnedRegion Nat)) := rfl
example : (RDesc.owned .nat).sized (by decide) = (inferInstance : Sized (OwnedRegion Nat)) := rfl
example : (RDesc.owned .nat).Reservable := by decide
example : (RDesc.string (.owned .u8)).aux = (inferInstance : RegionAux (StringRegion (OwnedRegion UInt8))) := rfl
example : (RDesc.string (.owned .u8)).heapInv = (inferInstance : HeapInv (StringRegion (OwnedRegion UInt8))) := rfl
example : (RDesc.string (.owned .u8)).stored = (inferInstance : Stored (StringRegion (OwnedRegion UInt8))) := rfl
example : (RDesc.string (.owned .u8)).Uncoded := by decide
example : (RDesc.string (.owned .u8)).ser (by decide) = (inferInstance : Ser (StringRegion (OwnedRegion UInt8))) := rfl
example : (RDesc.string (.owned .u8)).sized (by decide) = (inferInstance : Sized (StringRegion (OwnedRegion UInt8))) := rfl
example : (RDesc.string (.owned .u8)).Reservable := by decide
example : (RDesc.collapse (.string (.owned .u8))).aux = (inferInstance : RegionAux (CollapseSequence (StringRegion (OwnedRegion UInt8)) (Nat × Nat))) := rfl
example : (RDesc.collapse (.string (.owned .u8))).heapInv = (inferInstance : HeapInv (CollapseSequence (StringRegion (OwnedRegion UInt8)) (Nat × Nat))) := rfl
example : (RDesc.collapse (.string (.owned .u8))).stored = (inferInstance : Stored (CollapseSequence (StringRegion (OwnedRegion UInt8)) (Nat × Nat))) := rfl
example : (RDesc.collapse (.string (.owned .u8))).Uncoded := by decide
example : (RDesc.collapse (.string (.owned .u8))).ser (by decide) = (inferInstance : Ser (CollapseSequence (StringRegion (OwnedRegion UInt8)) (Nat × Nat))) := rfl
example : ¬ (RDesc.collapse (.string (.owned .u8))).VecSized := by decide
example : ¬ (RDesc.collapse (.string (.owned .u8))).Reservable := by decide
example : (RDesc.consec (.owned .u8) .opt).aux = (inferInstance : RegionAux (ConsecPairs (OwnedRegion UInt8) (Capd IndexOptimized))) := rfl
example : (RDesc.consec (.owned .u8) .opt).heapInv = (inferInstance : HeapInv (ConsecPairs (OwnedRegion UInt8) (Capd IndexOptimized))) := rfl
example : (RDesc.consec (.owned .u8) .opt).stored = (inferInstance : Stored (ConsecPairs (OwnedRegion UInt8) (Capd IndexOptimized))) := rfl
example : (RDesc.consec (.owned .u8) .opt).Uncoded := by decide
example : (RDesc.consec (.owned .u8) .opt).ser (by decide) = (inferInstance : Ser (ConsecPairs (OwnedRegion UInt8) (Capd IndexOptimized))) := rfl
example : ¬ (RDesc.consec (.owned .u8) .opt).VecSized := by decide
example : ¬ (RDesc.consec (.owned .u8) .opt).Reservable := by decide
example : (RDesc.consec (.string (.owned .u8)) .list).aux = (inferInstance : RegionAux (ConsecPairs (StringRegion (OwnedRegion UInt8)) (Capd IndexList))) := rfl
example : (RDesc.consec (.string (.owned .u8)) .list).heapInv = (inferInstance : HeapInv (ConsecPairs (StringRegion (OwnedRegion UInt8)) (Capd IndexList))) := rfl
example : (RDesc.consec (.string (.owned .u8)) .list).stored = (inferInstance : Stored (ConsecPairs (StringRegion (OwnedRegion UInt8)) (Capd IndexList))) := rfl
example : (RDesc.consec (.string (.owned .u8)) .list).Uncoded := by decide
example : (RDesc.consec (.string (.owned .u8)) .list).ser (by decide) = (inferInstance : Ser (ConsecPairs (StringRegion (OwnedRegion UInt8)) (Capd IndexList))) := rfl
example : ¬ (RDesc.consec (.string (.owned .u8)) .list).VecSized := by decide
example : ¬ (RDesc.consec (.string (.owned .u8)) .list).Reservable := by decide
example : (RDesc.collapse (.consec (.string (.owned .u8)) .opt)).aux = (inferInstance : RegionAux (CollapseSequence (ConsecPairs (StringRegion (OwnedRegion UInt8)) (Capd IndexOptimized)) Nat)) := rfl
example : (RDesc.collapse (.consec (.string (.owned .u8)) .opt)).heapInv = (inferInstance : HeapInv (CollapseSequence (ConsecPairs (StringRegion (OwnedRegion UInt8)) (Capd IndexOptimized)) Nat)) := rfl
example : (RDesc.collapse (.consec (.string (.owned .u8)) .opt)).stored = (inferInstance : Stored (CollapseSequence (ConsecPairs (StringRegion (OwnedRegion UInt8)) (Capd IndexOptimized)) Nat)) := rfl
example : (RDesc.collapse (.consec (.string (.owned .u8)) .opt)).Uncoded := by decide
example : (RDesc.collapse (.consec (.string (.owned .u8)) .opt)).ser (by decide) = (inferInstance : Ser (CollapseSequence (ConsecPairs (StringRegion (OwnedRegion UInt8)) (Capd IndexOptimized)) Nat)) := rfl
example : ¬ (RDesc.collapse (.consec (.string (.owned .u8)) .opt)).VecSized := by decide
example : ¬ (RDesc.collapse (.consec (.string (.owned .u8)) .opt)).Reservable := by decide
example : (RDesc.option (.option (.mirror .nat))).aux = (inferInstance : RegionAux (OptionRegion (OptionRegion (MirrorRegion Nat)))) := rfl
example : (RDesc.option (.option (.mirror .nat))).heapInv = (inferInstance : HeapInv (OptionRegion (OptionRegion (MirrorRegion Nat)))) := rfl
example : (RDesc.option (.option (.mirror .nat))).stored = (inferInstance : Stored (OptionRegion (OptionRegion (MirrorRegion Nat)))) := rfl
example : (RDesc.option (.option (.mirror .nat))).Uncoded := by decide
example : (RDesc.option (.option (.mirror .nat))).ser (by decide) = (inferInstance : Ser (OptionRegion (OptionRegion (MirrorRegion Nat)))) := rfl
example : (RDesc.option (.option (.mirror .nat))).sized (by decide) = (inferInstance : Sized (OptionRegion (OptionRegion (MirrorRegion Nat)))) := rfl
example : (RDesc.option (.option (.mirror .nat))).Reservable := by decide
example : (RDesc.tupleCons (.mirror .nat) .tupleNil).aux = (inferInstance : RegionAux (TupleCons (MirrorRegion Nat) TupleNil)) := rfl
example : (RDesc.tupleCons (.mirror .nat) .tupleNil).heapInv = (inferInstance : HeapInv (TupleCons (MirrorRegion Nat) TupleNil)) := rfl
example : (RDesc.tupleCons (.mirror .nat) .tupleNil).stored = (inferInstance : Stored (TupleCons (MirrorRegion Nat) TupleNil)) := rfl
example : (RDesc.tupleCons (.mirror .nat) .tupleNil).Uncoded := by decide
example : (RDesc.tupleCons (.mirror .nat) .tupleNil).ser (by decide) = (inferInstance : Ser (TupleCons (MirrorRegion Nat) TupleNil)) := rfl
example : (RDesc.tupleCons (.mirror .nat) .tupleNil).sized (by decide) = (inferInstance : Sized (TupleCons (MirrorRegion Nat) TupleNil)) := rfl
example : (RDesc.tupleCons (.mirror .nat) .tupleNil).Reservable := by decide
example : (RDesc.option .codec).aux = (inferInstance : RegionAux (OptionRegion Codec.Region)) := rfl
example : (RDesc.option .codec).heapInv = (inferInstance : HeapInv (OptionRegion Codec.Region)) := rfl
example : (RDesc.option .codec).stored = (inferInstance : Stored (OptionRegion Codec.Region)) := rfl
example : ¬ (RDesc.option .codec).Uncoded := by decide
example : ¬ (RDesc.option .codec).Serde := by decide
example : ¬ (RDesc.option .codec).VecSized := by decide
example : ¬ (RDesc.option .codec).Reservable := by decide
example : (RDesc.slice (.string (.owned .u8)) (.vec 16)).aux = (inferInstance : RegionAux (SliceRegion (StringRegion (OwnedRegion UInt8)) (Capd (VecIdx (Nat × Nat) 16)))) := rfl
example : (RDesc.slice (.string (.owned .u8)) (.vec 16)).heapInv = (inferInstance : HeapInv (SliceRegion (StringRegion (OwnedRegion UInt8)) (Capd (VecIdx (Nat × Nat) 16)))) := rfl
example : (RDesc.slice (.string (.owned .u8)) (.vec 16)).stored = (inferInstance : Stored (SliceRegion (StringRegion (OwnedRegion UInt8)) (Capd (VecIdx (Nat × Nat) 16)))) := rfl
example : (RDesc.slice (.string (.owned .u8)) (.vec 16)).Uncoded := by decide
example : (RDesc.slice (.string (.owned .u8)) (.vec 16)).ser (by decide) = (inferInstance : Ser (SliceRegion (StringRegion (OwnedRegion UInt8)) (Capd (VecIdx (Nat × Nat) 16)))) := rfl
example : (RDesc.slice (.string (.owned .u8)) (.vec 16)).sized (by decide) = (inferInstance : Sized (SliceRegion (StringRegion (OwnedRegion UInt8)) (Capd (VecIdx (Nat × Nat) 16)))) := rfl
example : (RDesc.slice (.string (.owned .u8)) (.vec 16)).Reservable := by decide
example : (RDesc.slice (.consec (.string (.owned .u8)) .opt) .opt).aux = (inferInstance : RegionAux (SliceRegion (ConsecPairs (StringRegion (OwnedRegion UInt8)) (Capd IndexOptimized)) (Capd IndexOptimized))) := rfl
example : (RDesc.slice (.consec (.string (.owned .u8)) .opt) .opt).heapInv = (inferInstance : HeapInv (SliceRegion (ConsecPairs (StringRegion (OwnedRegion UInt8)) (Capd IndexOptimized)) (Capd IndexOptimized))) := rfl
example : (RDesc.slice (.consec (.string (.owned .u8)) .opt) .opt).stored = (inferInstance : Stored (SliceRegion (ConsecPairs (StringRegion (OwnedRegion UInt8)) (Capd IndexOptimized)) (Capd IndexOptimized))) := rfl
example : (RDesc.slice (.consec (.string (.owned .u8)) .opt) .opt).Uncoded := by decide
example : (RDesc.slice (.consec (.string (.owned .u8)) .opt) .opt).ser (by decide) = (inferInstance : Ser (SliceRegion (ConsecPairs (StringRegion (OwnedRegion UInt8)) (Capd IndexOptimized)) (Capd IndexOptimized))) := rfl
example : ¬ (RDesc.slice (.consec (.string (.owned .u8)) .opt) .opt).VecSized := by decide
example : ¬ (RDesc.slice (.consec (.string (.owned .u8)) .opt) .opt).Reservable := by decide
example : (RDesc.slice (.mirror .nat) .list).aux = (inferInstance : RegionAux (SliceRegion (MirrorRegion Nat) (Capd IndexList))) := rfl
example : (RDesc.slice (.mirror .nat) .list).heapInv = (inferInstance : HeapInv (SliceRegion (MirrorRegion Nat) (Capd IndexList))) := rfl
example : (RDesc.slice (.mirror .nat) .list).stored = (inferInstance : Stored (SliceRegion (MirrorRegion Nat) (Capd IndexList))) := rfl
example : (RDesc.slice (.mirror .nat) .list).Uncoded := by decide
example : (RDesc.slice (.mirror .nat) .list).ser (by decide) = (inferInstance : Ser (SliceRegion (MirrorRegion Nat) (Capd IndexList))) := rfl
example : ¬ (RDesc.slice (.mirror .nat) .list).VecSized := by decide
example : ¬ (RDesc.slice (.mirror .nat) .list).Reservable := by decide
example : (RDesc.columns (.mirror .nat) .opt).aux = (inferInstance : RegionAux (ColumnsRegion (MirrorRegion Nat) Nat (Capd IndexOptimized))) := rfl
example : (RDesc.columns (.mirror .nat) .opt).heapInv = (inferInstance : HeapInv (ColumnsRegion (MirrorRegion Nat) Nat (Capd IndexOptimized))) := rfl
example : (RDesc.columns (.mirror .nat) .opt).stored = (inferInstance : Stored (ColumnsRegion (MirrorRegion Nat) Nat (Capd IndexOptimized))) := rfl
example : (RDesc.columns (.mirror .nat) .opt).Uncoded := by decide
example : (RDesc.columns (.mirror .nat) .opt).ser (by decide) = (inferInstance : Ser (ColumnsRegion (MirrorRegion Nat) Nat (Capd IndexOptimized))) := rfl
example : ¬ (RDesc.columns (.mirror .nat) .opt).VecSized := by decide
example : ¬ (RDesc.columns (.mirror .nat) .opt).Reservable := by decide
example : (RDesc.columns (.owned .u8) .opt).aux = (inferInstance : RegionAux (ColumnsRegion (OwnedRegion UInt8) (Nat × Nat) (Capd IndexOptimized))) := rfl
example : (RDesc.columns (.owned .u8) .opt).heapInv = (inferInstance : HeapInv (ColumnsRegion (OwnedRegion UInt8) (Nat × Nat) (Capd IndexOptimized))) := rfl
example : (RDesc.columns (.owned .u8) .opt).stored = (inferInstance : Stored (ColumnsRegion (OwnedRegion UInt8) (Nat × Nat) (Capd IndexOptimized))) := rfl
example : (RDesc.columns (.owned .u8) .opt).Uncoded := by decide
example : (RDesc.columns (.owned .u8) .opt).ser (by decide) = (inferInstance : Ser (ColumnsRegion (OwnedRegion UInt8) (Nat × Nat) (Capd IndexOptimized))) := rfl
example : ¬ (RDesc.columns (.owned .u8) .opt).VecSized := by decide
example : ¬ (RDesc.columns (.owned .u8) .opt).Reservable := by decide
example : (RDesc.string (.consec (.owned .u8) .list)).aux = (inferInstance : RegionAux (StringRegion (ConsecPairs (OwnedRegion UInt8) (Capd IndexList)))) := rfl
example : (RDesc.string (.consec (.owned .u8) .list)).heapInv = (inferInstance : HeapInv (StringRegion (ConsecPairs (OwnedRegion UInt8) (Capd IndexList)))) := rfl
example : (RDesc.string (.consec (.owned .u8) .list)).stored = (inferInstance : Stored (StringRegion (ConsecPairs (OwnedRegion UInt8) (Capd IndexList)))) := rfl
example : (RDesc.string (.consec (.owned .u8) .list)).Uncoded := by decide
example : (RDesc.string (.consec (.owned .u8) .list)).ser (by decide) = (inferInstance : Ser (StringRegion (ConsecPairs (OwnedRegion UInt8) (Capd IndexList)))) := rfl
example : ¬ (RDesc.string (.consec (.owned .u8) .list)).VecSized := by decide
example : ¬ (RDesc.string (.consec (.owned .u8) .list)).Reservable := by decide
example : (RDesc.columns .huffmanU8 (.vec 8)).aux = (inferInstance : RegionAux (ColumnsRegion HuffU8 (Nat × Nat) (Capd (VecIdx Nat 8)))) := rfl
example : (RDesc.columns .huffmanU8 (.vec 8)).heapInv = (inferInstance : HeapInv (ColumnsRegion HuffU8 (Nat × Nat) (Capd (VecIdx Nat 8)))) := rfl
example : (RDesc.columns .huffmanU8 (.vec 8)).stored = (inferInstance : Stored (ColumnsRegion HuffU8 (Nat × Nat) (Capd (VecIdx Nat 8)))) := rfl
example : ¬ (RDesc.columns .huffmanU8 (.vec 8)).Uncoded := by decide
example : ¬ (RDesc.columns .huffmanU8 (.vec 8)).Serde := by decide
example : ¬ (RDesc.columns .huffmanU8 (.vec 8)).VecSized := by decide
example : ¬ (RDesc.columns .huffmanU8 (.vec 8)).Reservable := by decide
example : (RDesc.stack (.mirror .nat) .opt).aux = (inferInstance : RegionAux (FlatStack (MirrorRegion Nat) (Capd IndexOptimized))) := rfl
example : (RDesc.stack (.mirror .nat) .opt).heapInv = (inferInstance : HeapInv (FlatStack (MirrorRegion Nat) (Capd IndexOptimized))) := rfl
example : (RDesc.stack (.mirror .nat) .opt).stored = (inferInstance : Stored (FlatStack (MirrorRegion Nat) (Capd IndexOptimized))) := rfl
example : (RDesc.stack (.mirror .nat) .opt).Uncoded := by decide
example : (RDesc.stack (.mirror .nat) .opt).ser (by decide) = (inferInstance : Ser (FlatStack (MirrorRegion Nat) (Capd IndexOptimized))) := rfl
example : ¬ (RDesc.stack (.mirror .nat) .opt).VecSized := by decide
example : ¬ (RDesc.stack (.mirror .nat) .opt).Reservable := by decide
example : (RDesc.stack (.mirror .nat) (.vec 4)).aux = (inferInstance : RegionAux (FlatStack (MirrorRegion Nat) (Capd (VecIdx Nat 4)))) := rfl
example : (RDesc.stack (.mirror .nat) (.vec 4)).heapInv = (inferInstance : HeapInv (FlatStack (MirrorRegion Nat) (Capd (VecIdx Nat 4)))) := rfl
example : (RDesc.stack (.mirror .nat) (.vec 4)).stored = (inferInstance : Stored (FlatStack (MirrorRegion Nat) (Capd (VecIdx Nat 4)))) := rfl
example : (RDesc.stack (.mirror .nat) (.vec 4)).Uncoded := by decide
example : (RDesc.stack (.mirror .nat) (.vec 4)).ser (by decide) = (inferInstance : Ser (FlatStack (MirrorRegion Nat) (Capd (VecIdx Nat 4)))) := rfl
example : (RDesc.stack (.mirror .nat) (.vec 4)).sized (by decide) = (inferInstance : Sized (FlatStack (MirrorRegion Nat) (Capd (VecIdx Nat 4)))) := rfl
example : ¬ (RDesc.stack (.mirror .nat) (.vec 4)).Reservable := by decide
example : (RDesc.stack (.owned .unit) (.vec 16)).aux = (inferInstance : RegionAux (FlatStack (OwnedRegion Unit) (Capd (VecIdx (Nat × Nat) 16)))) := rfl
example : (RDesc.stack (.owned .unit) (.vec 16)).heapInv = (inferInstance : HeapInv (FlatStack (OwnedRegion Unit) (Capd (VecIdx (Nat × Nat) 16)))) := rfl
example : (RDesc.stack (.owned .unit) (.vec 16)).stored = (inferInstance : Stored (FlatStack (OwnedRegion Unit) (Capd (VecIdx (Nat × Nat) 16)))) := rfl
example : (RDesc.stack (.owned .unit) (.vec 16)).Uncoded := by decide
example : (RDesc.stack (.owned .unit) (.vec 16)).ser (by decide) = (inferInstance : Ser (FlatStack (OwnedRegion Unit) (Capd (VecIdx (Nat × Nat) 16)))) := rfl
example : (RDesc.stack (.owned .unit) (.vec 16)).sized (by decide) = (inferInstance : Sized (FlatStack (OwnedRegion Unit) (Capd (VecIdx (Nat × Nat) 16)))) := rfl
example : ¬ (RDesc.stack (.owned .unit) (.vec 16)).Reservable := by decide
example : (RDesc.stack (.vec (.list .u8)) (.vec 8)).aux = (inferInstance : RegionAux (FlatStack (VecRegion (List UInt8)) (Capd (VecIdx Nat 8)))) := rfl
example : (RDesc.stack (.vec (.list .u8)) (.vec 8)).heapInv = (inferInstance : HeapInv (FlatStack (VecRegion (List UInt8)) (Capd (VecIdx Nat 8)))) := rfl
example : (RDesc.stack (.vec (.list .u8)) (.vec 8)).stored = (inferInstance : Stored (FlatStack (VecRegion (List UInt8)) (Capd (VecIdx Nat 8)))) := rfl
example : (RDesc.stack (.vec (.list .u8)) (.vec 8)).Uncoded := by decide
example : (RDesc.stack (.vec (.list .u8)) (.vec 8)).ser (by decide) = (inferInstance : Ser (FlatStack (VecRegion (List UInt8)) (Capd (VecIdx Nat 8)))) := rfl
example : (RDesc.stack (.vec (.list .u8)) (.vec 8)).sized (by decide) = (inferInstance : Sized (FlatStack (VecRegion (List UInt8)) (Capd (VecIdx Nat 8)))) := rfl
example : ¬ (RDesc.stack (.vec (.list .u8)) (.vec 8)).Reservable := by decide
example : (RDesc.stack .huffmanU8 (.vec 16)).aux = (inferInstance : RegionAux (FlatStack HuffU8 (Capd (VecIdx (Nat × Nat) 16)))) := rfl
example : (RDesc.stack .huffmanU8 (.vec 16)).heapInv = (inferInstance : HeapInv (FlatStack HuffU8 (Capd (VecIdx (Nat × Nat) 16)))) := rfl
example : (RDesc.stack .huffmanU8 (.vec 16)).stored = (inferInstance : Stored (FlatStack HuffU8 (Capd (VecIdx (Nat × Nat) 16)))) := rfl
example : ¬ (RDesc.stack .huffmanU8 (.vec 16)).Uncoded := by decide
example : ¬ (RDesc.stack .huffmanU8 (.vec 16)).Serde := by decide
example : ¬ (RDesc.stack .huffmanU8 (.vec 16)).VecSized := by decide
example : ¬ (RDesc.stack .huffmanU8 (.vec 16)).Reservable := by decide
example : (RDesc.stack (.collapse (.mirror .f64)) (.vec 8)).aux = (inferInstance : RegionAux (FlatStack (CollapseSequence (MirrorRegion F64) F64) (Capd (VecIdx F64 8)))) := rfl
example : (RDesc.stack (.collapse (.mirror .f64)) (.vec 8)).heapInv = (inferInstance : HeapInv (FlatStack (CollapseSequence (MirrorRegion F64) F64) (Capd (VecIdx F64 8)))) := rfl
example : (RDesc.stack (.collapse (.mirror .f64)) (.vec 8)).stored = (inferInstance : Stored (FlatStack (CollapseSequence (MirrorRegion F64) F64) (Capd (VecIdx F64 8)))) := rfl
example : (RDesc.stack (.collapse (.mirror .f64)) (.vec 8)).Uncoded := by decide
example : (RDesc.stack (.collapse (.mirror .f64)) (.vec 8)).ser (by decide) = (inferInstance : Ser (FlatStack (CollapseSequence (MirrorRegion F64) F64) (Capd (VecIdx F64 8)))) := rfl
example : ¬ (RDesc.stack (.collapse (.mirror .f64)) (.vec 8)).VecSized := by decide
example : ¬ (RDesc.stack (.collapse (.mirror .f64)) (.vec 8)).Reservable := by decide
example : (RDesc.stack (.consec (.owned .u8) (.vec 8)) .list).aux = (inferInstance : RegionAux (FlatStack (ConsecPairs (OwnedRegion UInt8) (Capd (VecIdx Nat 8))) (Capd IndexList))) := rfl
example : (RDesc.stack (.consec (.owned .u8) (.vec 8)) .list).heapInv = (inferInstance : HeapInv (FlatStack (ConsecPairs (OwnedRegion UInt8) (Capd (VecIdx Nat 8))) (Capd IndexList))) := rfl
example : (RDesc.stack (.consec (.owned .u8) (.vec 8)) .list).stored = (inferInstance : Stored (FlatStack (ConsecPairs (OwnedRegion UInt8) (Capd (VecIdx Nat 8))) (Capd IndexList))) := rfl
example : (RDesc.stack (.consec (.owned .u8) (.vec 8)) .list).Uncoded := by decide
example : (RDesc.stack (.consec (.owned .u8) (.vec 8)) .list).ser (by decide) = (inferInstance : Ser (FlatStack (ConsecPairs (OwnedRegion UInt8) (Capd (VecIdx Nat 8))) (Capd IndexList))) := rfl
example : ¬ (RDesc.stack (.consec (.owned .u8) (.vec 8)) .list).VecSized := by decide
example : ¬ (RDesc.stack (.consec (.owned .u8) (.vec 8)) .list).Reservable := by decide
example : (RDesc.stack (.consec (.owned .u8) .list) (.vec 8)).aux = (inferInstance : RegionAux (FlatStack (ConsecPairs (OwnedRegion UInt8) (Capd IndexList)) (Capd (VecIdx Nat 8)))) := rfl
example : (RDesc.stack (.consec (.owned .u8) .list) (.vec 8)).heapInv = (inferInstance : HeapInv (FlatStack (ConsecPairs (OwnedRegion UInt8) (Capd IndexList)) (Capd (VecIdx Nat 8)))) := rfl
example : (RDesc.stack (.consec (.owned .u8) .list) (.vec 8)).stored = (inferInstance : Stored (FlatStack (ConsecPairs (OwnedRegion UInt8) (Capd IndexList)) (Capd (VecIdx Nat 8)))) := rfl
example : (RDesc.stack (.consec (.owned .u8) .list) (.vec 8)).Uncoded := by decide
example : (RDesc.stack (.consec (.owned .u8) .list) (.vec 8)).ser (by decide) = (inferInstance : Ser (FlatStack (ConsecPairs (OwnedRegion UInt8) (Capd IndexList)) (Capd (VecIdx Nat 8)))) := rfl
example : ¬ (RDesc.stack (.consec (.owned .u8) .list) (.vec 8)).VecSized := by decide
example : ¬ (RDesc.stack (.consec (.owned .u8) .list) (.vec 8)).Reservable := by decide
example : (RDesc.stack (.consec (.string (.owned .u8)) (.vec 8)) .opt).aux = (inferInstance : RegionAux (FlatStack (ConsecPairs (StringRegion (OwnedRegion UInt8)) (Capd (VecIdx Nat 8))) (Capd IndexOptimized))) := rfl
example : (RDesc.stack (.consec (.string (.owned .u8)) (.vec 8)) .opt).heapInv = (inferInstance : HeapInv (FlatStack (ConsecPairs (StringRegion (OwnedRegion UInt8)) (Capd (VecIdx Nat 8))) (Capd IndexOptimized))) := rfl
example : (RDesc.stack (.consec (.string (.owned .u8)) (.vec 8)) .opt).stored = (inferInstance : Stored (FlatStack (ConsecPairs (StringRegion (OwnedRegion UInt8)) (Capd (VecIdx Nat 8))) (Capd IndexOptimized))) := rfl
example : (RDesc.stack (.consec (.string (.owned .u8)) (.vec 8)) .opt).Uncoded := by decide
example : (RDesc.stack (.consec (.string (.owned .u8)) (.vec 8)) .opt).ser (by decide) = (inferInstance : Ser (FlatStack (ConsecPairs (StringRegion (OwnedRegion UInt8)) (Capd (VecIdx Nat 8))) (Capd IndexOptimized))) := rfl
example : ¬ (RDesc.stack (.consec (.string (.owned .u8)) (.vec 8)) .opt).VecSized := by decide
example : ¬ (RDesc.stack (.consec (.string (.owned .u8)) (.vec 8)) .opt).Reservable := by decide
example : (RDesc.stack (.consec (.string (.owned .u8)) .opt) .list).aux = (inferInstance : RegionAux (FlatStack (ConsecPairs (StringRegion (OwnedRegion UInt8)) (Capd IndexOptimized)) (Capd IndexList))) := rfl
example : (RDesc.stack (.consec (.string (.owned .u8)) .opt) .list).heapInv = (inferInstance : HeapInv (FlatStack (ConsecPairs (StringRegion (OwnedRegion UInt8)) (Capd IndexOptimized)) (Capd IndexList))) := rfl
example : (RDesc.stack (.consec (.string (.owned .u8)) .opt) .list).stored = (inferInstance : Stored (FlatStack (ConsecPairs (StringRegion (OwnedRegion UInt8)) (Capd IndexOptimized)) (Capd IndexList))) := rfl
example : (RDesc.stack (.consec (.string (.owned .u8)) .opt) .list).Uncoded := by decide
example : (RDesc.stack (.consec (.string (.owned .u8)) .opt) .list).ser (by decide) = (inferInstance : Ser (FlatStack (ConsecPairs (StringRegion (OwnedRegion UInt8)) (Capd IndexOptimized)) (Capd IndexList))) := rfl
example : ¬ (RDesc.stack (.consec (.string (.owned .u8)) .opt) .list).VecSized := by decide
example : ¬ (RDesc.stack (.consec (.string (.owned .u8)) .opt) .list).Reservable := by decide
example : (RDesc.stack (.string (.consec (.owned .u8) .opt)) (.vec 8)).aux = (inferInstance : RegionAux (FlatStack (StringRegion (ConsecPairs (OwnedRegion UInt8) (Capd IndexOptimized))) (Capd (VecIdx Nat 8)))) := rfl
example : (RDesc.stack (.string (.consec (.owned .u8) .opt)) (.vec 8)).heapInv = (inferInstance : HeapInv (FlatStack (StringRegion (ConsecPairs (OwnedRegion UInt8) (Capd IndexOptimized))) (Capd (VecIdx Nat 8)))) := rfl
example : (RDesc.stack (.string (.consec (.owned .u8) .opt)) (.vec 8)).stored = (inferInstance : Stored (FlatStack (StringRegion (ConsecPairs (OwnedRegion UInt8) (Capd IndexOptimized))) (Capd (VecIdx Nat 8)))) := rfl
example : (RDesc.stack (.string (.consec (.owned .u8) .opt)) (.vec 8)).Uncoded := by decide
example : (RDesc.stack (.string (.consec (.owned .u8) .opt)) (.vec 8)).ser (by decide) = (inferInstance : Ser (FlatStack (StringRegion (ConsecPairs (OwnedRegion UInt8) (Capd IndexOptimized))) (Capd (VecIdx Nat 8)))) := rfl
example : ¬ (RDesc.stack (.string (.consec (.owned .u8) .opt)) (.vec 8)).VecSized := by decide
example : ¬ (RDesc.stack (.string (.consec (.owned .u8) .opt)) (.vec 8)).Reservable := by decide
example : (RDesc.stack (.string .codec) (.vec 16)).aux = (inferInstance : RegionAux (FlatStack (StringRegion Codec.Region) (Capd (VecIdx (Nat × Nat) 16)))) := rfl
example : (RDesc.stack (.string .codec) (.vec 16)).heapInv = (inferInstance : HeapInv (FlatStack (StringRegion Codec.Region) (Capd (VecIdx (Nat × Nat) 16)))) := rfl
example : (RDesc.stack (.string .codec) (.vec 16)).stored = (inferInstance : Stored (FlatStack (StringRegion Codec.Region) (Capd (VecIdx (Nat × Nat) 16)))) := rfl
example : ¬ (RDesc.stack (.string .codec) (.vec 16)).Uncoded := by decide
example : ¬ (RDesc.stack (.string .codec) (.vec 16)).Serde := by decide
example : ¬ (RDesc.stack (.string .codec) (.vec 16)).VecSized := by decide
example : ¬ (RDesc.stack (.string .codec) (.vec 16)).Reservable := by decide
example : (RDesc.stack (.consec .huffmanU8 .opt) (.vec 8)).aux = (inferInstance : RegionAux (FlatStack (ConsecPairs HuffU8 (Capd IndexOptimized)) (Capd (VecIdx Nat 8)))) := rfl
example : (RDesc.stack (.consec .huffmanU8 .opt) (.vec 8)).heapInv = (inferInstance : HeapInv (FlatStack (ConsecPairs HuffU8 (Capd IndexOptimized)) (Capd (VecIdx Nat 8)))) := rfl
example : (RDesc.stack (.consec .huffmanU8 .opt) (.vec 8)).stored = (inferInstance : Stored (FlatStack (ConsecPairs HuffU8 (Capd IndexOptimized)) (Capd (VecIdx Nat 8)))) := rfl
example : ¬ (RDesc.stack (.consec .huffmanU8 .opt) (.vec 8)).Uncoded := by decide
example : ¬ (RDesc.stack (.consec .huffmanU8 .opt) (.vec 8)).Serde := by decide
example : ¬ (RDesc.stack (.consec .huffmanU8 .opt) (.vec 8)).VecSized := by decide
example : ¬ (RDesc.stack (.consec .huffmanU8 .opt) (.vec 8)).Reservable := by decide
example : (RDesc.stack (.consec .codec .opt) .opt).aux = (inferInstance : RegionAux (FlatStack (ConsecPairs Codec.Region (Capd IndexOptimized)) (Capd IndexOptimized))) := rfl
example : (RDesc.stack (.consec .codec .opt) .opt).heapInv = (inferInstance : HeapInv (FlatStack (ConsecPairs Codec.Region (Capd IndexOptimized)) (Capd IndexOptimized))) := rfl
example : (RDesc.stack (.consec .codec .opt) .opt).stored = (inferInstance : Stored (FlatStack (ConsecPairs Codec.Region (Capd IndexOptimized)) (Capd IndexOptimized))) := rfl
example : ¬ (RDesc.stack (.consec .codec .opt) .opt).Uncoded := by decide
example : ¬ (RDesc.stack (.consec .codec .opt) .opt).Serde := by decide
example : ¬ (RDesc.stack (.consec .codec .opt) .opt).VecSized := by decide
example : ¬ (RDesc.stack (.consec .codec .opt) .opt).Reservable := by decide
example : (RDesc.stack (.result (.string (.owned .u8)) (.mirror .nat)) (.vec 24)).aux = (inferInstance : RegionAux (FlatStack (ResultRegion (StringRegion (OwnedRegion UInt8)) (MirrorRegion Nat)) (Capd (VecIdx (Except Nat (Nat × Nat)) 24)))) := rfl
example : (RDesc.stack (.result (.string (.owned .u8)) (.mirror .nat)) (.vec 24)).heapInv = (inferInstance : HeapInv (FlatStack (ResultRegion (StringRegion (OwnedRegion UInt8)) (MirrorRegion Nat)) (Capd (VecIdx (Except Nat (Nat × Nat)) 24)))) := rfl
example : (RDesc.stack (.result (.string (.owned .u8)) (.mirror .nat)) (.vec 24)).stored = (inferInstance : Stored (FlatStack (ResultRegion (StringRegion (OwnedRegion UInt8)) (MirrorRegion Nat)) (Capd (VecIdx (Except Nat (Nat × Nat)) 24)))) := rfl
example : (RDesc.stack (.result (.string (.owned .u8)) (.mirror .nat)) (.vec 24)).Uncoded := by decide
example : (RDesc.stack (.result (.string (.owned .u8)) (.mirror .nat)) (.vec 24)).ser (by decide) = (inferInstance : Ser (FlatStack (ResultRegion (StringRegion (OwnedRegion UInt8)) (MirrorRegion Nat)) (Capd (VecIdx (Except Nat (Nat × Nat)) 24)))) := rfl
example : (RDesc.stack (.result (.string (.owned .u8)) (.mirror .nat)) (.vec 24)).sized (by decide) = (inferInstance : Sized (FlatStack (ResultRegion (StringRegion (OwnedRegion UInt8)) (MirrorRegion Nat)) (Capd (VecIdx (Except Nat (Nat × Nat)) 24)))) := rfl
example : ¬ (RDesc.stack (.result (.string (.owned .u8)) (.mirror .nat)) (.vec 24)).Reservable := by decide
example : (RDesc.stack (.tupleCons (.mirror .nat) (.tupleCons (.string (.owned .u8)) (.tupleCons (.slice (.string (.owned .u8)) (.vec 16)) .tupleNil))) (.vec 40)).aux = (inferInstance : RegionAux (FlatStack (TupleCons (MirrorRegion Nat) (TupleCons (StringRegion (OwnedRegion UInt8)) (TupleCons (SliceRegion (StringRegion (OwnedRegion UInt8)) (Capd (VecIdx (Nat × Nat) 16))) TupleNil))) (Capd (VecIdx (Nat × ((Nat × Nat) × ((Nat × Nat) × Unit))) 40)))) := rfl
example : (RDesc.stack (.tupleCons (.mirror .nat) (.tupleCons (.string (.owned .u8)) (.tupleCons (.slice (.string (.owned .u8)) (.vec 16)) .tupleNil))) (.vec 40)).heapInv = (inferInstance : HeapInv (FlatStack (TupleCons (MirrorRegion Nat) (TupleCons (StringRegion (OwnedRegion UInt8)) (TupleCons (SliceRegion (StringRegion (OwnedRegion UInt8)) (Capd (VecIdx (Nat × Nat) 16))) TupleNil))) (Capd (VecIdx (Nat × ((Nat × Nat) × ((Nat × Nat) × Unit))) 40)))) := rfl
example : (RDesc.stack (.tupleCons (.mirror .nat) (.tupleCons (.string (.owned .u8)) (.tupleCons (.slice (.string (.owned .u8)) (.vec 16)) .tupleNil))) (.vec 40)).stored = (inferInstance : Stored (FlatStack (TupleCons (MirrorRegion Nat) (TupleCons (StringRegion (OwnedRegion UInt8)) (TupleCons (SliceRegion (StringRegion (OwnedRegion UInt8)) (Capd (VecIdx (Nat × Nat) 16))) TupleNil))) (Capd (VecIdx (Nat × ((Nat × Nat) × ((Nat × Nat) × Unit))) 40)))) := rfl
example : (RDesc.stack (.tupleCons (.mirror .nat) (.tupleCons (.string (.owned .u8)) (.tupleCons (.slice (.string (.owned .u8)) (.vec 16)) .tupleNil))) (.vec 40)).Uncoded := by decide
example : (RDesc.stack (.tupleCons (.mirror .nat) (.tupleCons (.string (.owned .u8)) (.tupleCons (.slice (.string (.owned .u8)) (.vec 16)) .tupleNil))) (.vec 40)).ser (by decide) = (inferInstance : Ser (FlatStack (TupleCons (MirrorRegion Nat) (TupleCons (StringRegion (OwnedRegion UInt8)) (TupleCons (SliceRegion (StringRegion (OwnedRegion UInt8)) (Capd (VecIdx (Nat × Nat) 16))) TupleNil))) (Capd (VecIdx (Nat × ((Nat × Nat) × ((Nat × Nat) × Unit))) 40)))) := rfl
example : (RDesc.stack (.tupleCons (.mirror .nat) (.tupleCons (.string (.owned .u8)) (.tupleCons (.slice (.string (.owned .u8)) (.vec 16)) .tupleNil))) (.vec 40)).sized (by decide) = (inferInstance : Sized (FlatStack (TupleCons (MirrorRegion Nat) (TupleCons (StringRegion (OwnedRegion UInt8)) (TupleCons (SliceRegion (StringRegion (OwnedRegion UInt8)) (Capd (VecIdx (Nat × Nat) 16))) TupleNil))) (Capd (VecIdx (Nat × ((Nat × Nat) × ((Nat × Nat) × Unit))) 40)))) := rfl
example : ¬ (RDesc.stack (.tupleCons (.mirror .nat) (.tupleCons (.string (.owned .u8)) (.tupleCons (.slice (.string (.owned .u8)) (.vec 16)) .tupleNil))) (.vec 40)).Reservable := by decide
example : (RDesc.stack (.result .codec .huffmanU8) (.vec 24)).aux = (inferInstance : RegionAux (FlatStack (ResultRegion Codec.Region HuffU8) (Capd (VecIdx (Except (Nat × Nat) (Nat × Nat)) 24)))) := rfl
example : (RDesc.stack (.result .codec .huffmanU8) (.vec 24)).heapInv = (inferInstance : HeapInv (FlatStack (ResultRegion Codec.Region HuffU8) (Capd (VecIdx (Except (Nat × Nat) (Nat × Nat)) 24)))) := rfl
example : (RDesc.stack (.result .codec .huffmanU8) (.vec 24)).stored = (inferInstance : Stored (FlatStack (ResultRegion Codec.Region HuffU8) (Capd (VecIdx (Except (Nat × Nat) (Nat × Nat)) 24)))) := rfl
example : ¬ (RDesc.stack (.result .codec .huffmanU8) (.vec 24)).Uncoded := by decide
example : ¬ (RDesc.stack (.result .codec .huffmanU8) (.vec 24)).Serde := by decide
example : ¬ (RDesc.stack (.result .codec .huffmanU8) (.vec 24)).VecSized := by decide
example : ¬ (RDesc.stack (.result .codec .huffmanU8) (.vec 24)).Reservable := by decide
example : (RDesc.stack (.slice (.owned .u8) (.vec 16)) (.vec 16)).aux = (inferInstance : RegionAux (FlatStack (SliceRegion (OwnedRegion UInt8) (Capd (VecIdx (Nat × Nat) 16))) (Capd (VecIdx (Nat × Nat) 16)))) := rfl
example : (RDesc.stack (.slice (.owned .u8) (.vec 16)) (.vec 16)).heapInv = (inferInstance : HeapInv (FlatStack (SliceRegion (OwnedRegion UInt8) (Capd (VecIdx (Nat × Nat) 16))) (Capd (VecIdx (Nat × Nat) 16)))) := rfl
example : (RDesc.stack (.slice (.owned .u8) (.vec 16)) (.vec 16)).stored = (inferInstance : Stored (FlatStack (SliceRegion (OwnedRegion UInt8) (Capd (VecIdx (Nat × Nat) 16))) (Capd (VecIdx (Nat × Nat) 16)))) := rfl
example : (RDesc.stack (.slice (.owned .u8) (.vec 16)) (.vec 16)).Uncoded := by decide
example : (RDesc.stack (.slice (.owned .u8) (.vec 16)) (.vec 16)).ser (by decide) = (inferInstance : Ser (FlatStack (SliceRegion (OwnedRegion UInt8) (Capd (VecIdx (Nat × Nat) 16))) (Capd (VecIdx (Nat × Nat) 16)))) := rfl
example : (RDesc.stack (.slice (.owned .u8) (.vec 16)) (.vec 16)).sized (by decide) = (inferInstance : Sized (FlatStack (SliceRegion (OwnedRegion UInt8) (Capd (VecIdx (Nat × Nat) 16))) (Capd (VecIdx (Nat × Nat) 16)))) := rfl
example : ¬ (RDesc.stack (.slice (.owned .u8) (.vec 16)) (.vec 16)).Reservable := by decide
example : (RDesc.stack (.slice (.consec (.string (.owned .u8)) .opt) .list) (.vec 16)).aux = (inferInstance : RegionAux (FlatStack (SliceRegion (ConsecPairs (StringRegion (OwnedRegion UInt8)) (Capd IndexOptimized)) (Capd IndexList)) (Capd (VecIdx (Nat × Nat) 16)))) := rfl
example : (RDesc.stack (.slice (.consec (.string (.owned .u8)) .opt) .list) (.vec 16)).heapInv = (inferInstance : HeapInv (FlatStack (SliceRegion (ConsecPairs (StringRegion (OwnedRegion UInt8)) (Capd IndexOptimized)) (Capd IndexList)) (Capd (VecIdx (Nat × Nat) 16)))) := rfl
example : (RDesc.stack (.slice (.consec (.string (.owned .u8)) .opt) .list) (.vec 16)).stored = (inferInstance : Stored (FlatStack (SliceRegion (ConsecPairs (StringRegion (OwnedRegion UInt8)) (Capd IndexOptimized)) (Capd IndexList)) (Capd (VecIdx (Nat × Nat) 16)))) := rfl
example : (RDesc.stack (.slice (.consec (.string (.owned .u8)) .opt) .list) (.vec 16)).Uncoded := by decide
example : (RDesc.stack (.slice (.consec (.string (.owned .u8)) .opt) .list) (.vec 16)).ser (by decide) = (inferInstance : Ser (FlatStack (SliceRegion (ConsecPairs (StringRegion (OwnedRegion UInt8)) (Capd IndexOptimized)) (Capd IndexList)) (Capd (VecIdx (Nat × Nat) 16)))) := rfl
example : ¬ (RDesc.stack (.slice (.consec (.string (.owned .u8)) .opt) .list) (.vec 16)).VecSized := by decide
example : ¬ (RDesc.stack (.slice (.consec (.string (.owned .u8)) .opt) .list) (.vec 16)).Reservable := by decide
example : (RDesc.stack (.slice (.collapse (.string (.owned .u8))) (.vec 16)) (.vec 16)).aux = (inferInstance : RegionAux (FlatStack (SliceRegion (CollapseSequence (StringRegion (OwnedRegion UInt8)) (Nat × Nat)) (Capd (VecIdx (Nat × Nat) 16))) (Capd (VecIdx (Nat × Nat) 16)))) := rfl
example : (RDesc.stack (.slice (.collapse (.string (.owned .u8))) (.vec 16)) (.vec 16)).heapInv = (inferInstance : HeapInv (FlatStack (SliceRegion (CollapseSequence (StringRegion (OwnedRegion UInt8)) (Nat × Nat)) (Capd (VecIdx (Nat × Nat) 16))) (Capd (VecIdx (Nat × Nat) 16)))) := rfl
example : (RDesc.stack (.slice (.collapse (.string (.owned .u8))) (.vec 16)) (.vec 16)).stored = (inferInstance : Stored (FlatStack (SliceRegion (CollapseSequence (StringRegion (OwnedRegion UInt8)) (Nat × Nat)) (Capd (VecIdx (Nat × Nat) 16))) (Capd (VecIdx (Nat × Nat) 16)))) := rfl
example : (RDesc.stack (.slice (.collapse (.string (.owned .u8))) (.vec 16)) (.vec 16)).Uncoded := by decide
example : (RDesc.stack (.slice (.collapse (.string (.owned .u8))) (.vec 16)) (.vec 16)).ser (by decide) = (inferInstance : Ser (FlatStack (SliceRegion (CollapseSequence (StringRegion (OwnedRegion UInt8)) (Nat × Nat)) (Capd (VecIdx (Nat × Nat) 16))) (Capd (VecIdx (Nat × Nat) 16)))) := rfl
example : ¬ (RDesc.stack (.slice (.collapse (.string (.owned .u8))) (.vec 16)) (.vec 16)).VecSized := by decide
example : ¬ (RDesc.stack (.slice (.collapse (.string (.owned .u8))) (.vec 16)) (.vec 16)).Reservable := by decide
example : (RDesc.stack (.columns (.mirror .nat) .opt) .opt).aux = (inferInstance : RegionAux (FlatStack (ColumnsRegion (MirrorRegion Nat) Nat (Capd IndexOptimized)) (Capd IndexOptimized))) := rfl
example : (RDesc.stack (.columns (.mirror .nat) .opt) .opt).heapInv = (inferInstance : HeapInv (FlatStack (ColumnsRegion (MirrorRegion Nat) Nat (Capd IndexOptimized)) (Capd IndexOptimized))) := rfl
example : (RDesc.stack (.columns (.mirror .nat) .opt) .opt).stored = (inferInstance : Stored (FlatStack (ColumnsRegion (MirrorRegion Nat) Nat (Capd IndexOptimized)) (Capd IndexOptimized))) := rfl
example : (RDesc.stack (.columns (.mirror .nat) .opt) .opt).Uncoded := by decide
example : (RDesc.stack (.columns (.mirror .nat) .opt) .opt).ser (by decide) = (inferInstance : Ser (FlatStack (ColumnsRegion (MirrorRegion Nat) Nat (Capd IndexOptimized)) (Capd IndexOptimized))) := rfl
example : ¬ (RDesc.stack (.columns (.mirror .nat) .opt) .opt).VecSized := by decide
example : ¬ (RDesc.stack (.columns (.mirror .nat) .opt) .opt).Reservable := by decide
example : (RDesc.stack (.columns (.mirror .nat) (.vec 8)) .list).aux = (inferInstance : RegionAux (FlatStack (ColumnsRegion (MirrorRegion Nat) Nat (Capd (VecIdx Nat 8))) (Capd IndexList))) := rfl
example : (RDesc.stack (.columns (.mirror .nat) (.vec 8)) .list).heapInv = (inferInstance : HeapInv (FlatStack (ColumnsRegion (MirrorRegion Nat) Nat (Capd (VecIdx Nat 8))) (Capd IndexList))) := rfl
example : (RDesc.stack (.columns (.mirror .nat) (.vec 8)) .list).stored = (inferInstance : Stored (FlatStack (ColumnsRegion (MirrorRegion Nat) Nat (Capd (VecIdx Nat 8))) (Capd IndexList))) := rfl
example : (RDesc.stack (.columns (.mirror .nat) (.vec 8)) .list).Uncoded := by decide
example : (RDesc.stack (.columns (.mirror .nat) (.vec 8)) .list).ser (by decide) = (inferInstance : Ser (FlatStack (ColumnsRegion (MirrorRegion Nat) Nat (Capd (VecIdx Nat 8))) (Capd IndexList))) := rfl
example : ¬ (RDesc.stack (.columns (.mirror .nat) (.vec 8)) .list).VecSized := by decide
example : ¬ (RDesc.stack (.columns (.mirror .nat) (.vec 8)) .list).Reservable := by decide
example : (RDesc.stack (.columns (.string (.owned .u8)) (.vec 8)) (.vec 8)).aux = (inferInstance : RegionAux (FlatStack (ColumnsRegion (StringRegion (OwnedRegion UInt8)) (Nat × Nat) (Capd (VecIdx Nat 8))) (Capd (VecIdx Nat 8)))) := rfl
example : (RDesc.stack (.columns (.string (.owned .u8)) (.vec 8)) (.vec 8)).heapInv = (inferInstance : HeapInv (FlatStack (ColumnsRegion (StringRegion (OwnedRegion UInt8)) (Nat × Nat) (Capd (VecIdx Nat 8))) (Capd (VecIdx Nat 8)))) := rfl
example : (RDesc.stack (.columns (.string (.owned .u8)) (.vec 8)) (.vec 8)).stored = (inferInstance : Stored (FlatStack (ColumnsRegion (StringRegion (OwnedRegion UInt8)) (Nat × Nat) (Capd (VecIdx Nat 8))) (Capd (VecIdx Nat 8)))) := rfl
example : (RDesc.stack (.columns (.string (.owned .u8)) (.vec 8)) (.vec 8)).Uncoded := by decide
example : (RDesc.stack (.columns (.string (.owned .u8)) (.vec 8)) (.vec 8)).ser (by decide) = (inferInstance : Ser (FlatStack (ColumnsRegion (StringRegion (OwnedRegion UInt8)) (Nat × Nat) (Capd (VecIdx Nat 8))) (Capd (VecIdx Nat 8)))) := rfl
example : ¬ (RDesc.stack (.columns (.string (.owned .u8)) (.vec 8)) (.vec 8)).VecSized := by decide
example : ¬ (RDesc.stack (.columns (.string (.owned .u8)) (.vec 8)) (.vec 8)).Reservable := by decide
example : (RDesc.stack (.columns (.owned .u8) .opt) .opt).aux = (inferInstance : RegionAux (FlatStack (ColumnsRegion (OwnedRegion UInt8) (Nat × Nat) (Capd IndexOptimized)) (Capd IndexOptimized))) := rfl
example : (RDesc.stack (.columns (.owned .u8) .opt) .opt).heapInv = (inferInstance : HeapInv (FlatStack (ColumnsRegion (OwnedRegion UInt8) (Nat × Nat) (Capd IndexOptimized)) (Capd IndexOptimized))) := rfl
example : (RDesc.stack (.columns (.owned .u8) .opt) .opt).stored = (inferInstance : Stored (FlatStack (ColumnsRegion (OwnedRegion UInt8) (Nat × Nat) (Capd IndexOptimized)) (Capd IndexOptimized))) := rfl
example : (RDesc.stack (.columns (.owned .u8) .opt) .opt).Uncoded := by decide
example : (RDesc.stack (.columns (.owned .u8) .opt) .opt).ser (by decide) = (inferInstance : Ser (FlatStack (ColumnsRegion (OwnedRegion UInt8) (Nat × Nat) (Capd IndexOptimized)) (Capd IndexOptimized))) := rfl
example : ¬ (RDesc.stack (.columns (.owned .u8) .opt) .opt).VecSized := by decide
example : ¬ (RDesc.stack (.columns (.owned .u8) .opt) .opt).Reservable := by decide
example : (RDesc.stack (.columns (.consec (.string (.owned .u8)) .opt) .opt) .list).aux = (inferInstance : RegionAux (FlatStack (ColumnsRegion (ConsecPairs (StringRegion (OwnedRegion UInt8)) (Capd IndexOptimized)) Nat (Capd IndexOptimized)) (Capd IndexList))) := rfl
example : (RDesc.stack (.columns (.consec (.string (.owned .u8)) .opt) .opt) .list).heapInv = (inferInstance : HeapInv (FlatStack (ColumnsRegion (ConsecPairs (StringRegion (OwnedRegion UInt8)) (Capd IndexOptimized)) Nat (Capd IndexOptimized)) (Capd IndexList))) := rfl
example : (RDesc.stack (.columns (.consec (.string (.owned .u8)) .opt) .opt) .list).stored = (inferInstance : Stored (FlatStack (ColumnsRegion (ConsecPairs (StringRegion (OwnedRegion UInt8)) (Capd IndexOptimized)) Nat (Capd IndexOptimized)) (Capd IndexList))) := rfl
example : (RDesc.stack (.columns (.consec (.string (.owned .u8)) .opt) .opt) .list).Uncoded := by decide
example : (RDesc.stack (.columns (.consec (.string (.owned .u8)) .opt) .opt) .list).ser (by decide) = (inferInstance : Ser (FlatStack (ColumnsRegion (ConsecPairs (StringRegion (OwnedRegion UInt8)) (Capd IndexOptimized)) Nat (Capd IndexOptimized)) (Capd IndexList))) := rfl
example : ¬ (RDesc.stack (.columns (.consec (.string (.owned .u8)) .opt) .opt) .list).VecSized := by decide
example : ¬ (RDesc.stack (.columns (.consec (.string (.owned .u8)) .opt) .opt) .list).Reservable := by decide
example : (RDesc.stack (.consec (.slice (.collapse (.string (.owned .u8))) (.vec 16)) (.vec 8)) (.vec 8)).aux = (inferInstance : RegionAux (FlatStack (ConsecPairs (SliceRegion (CollapseSequence (StringRegion (OwnedRegion UInt8)) (Nat × Nat)) (Capd (VecIdx (Nat × Nat) 16))) (Capd (VecIdx Nat 8))) (Capd (VecIdx Nat 8)))) := rfl
example : (RDesc.stack (.consec (.slice (.collapse (.string (.owned .u8))) (.vec 16)) (.vec 8)) (.vec 8)).heapInv = (inferInstance : HeapInv (FlatStack (ConsecPairs (SliceRegion (CollapseSequence (StringRegion (OwnedRegion UInt8)) (Nat × Nat)) (Capd (VecIdx (Nat × Nat) 16))) (Capd (VecIdx Nat 8))) (Capd (VecIdx Nat 8)))) := rfl
example : (RDesc.stack (.consec (.slice (.collapse (.string (.owned .u8))) (.vec 16)) (.vec 8)) (.vec 8)).stored = (inferInstance : Stored (FlatStack (ConsecPairs (SliceRegion (CollapseSequence (StringRegion (OwnedRegion UInt8)) (Nat × Nat)) (Capd (VecIdx (Nat × Nat) 16))) (Capd (VecIdx Nat 8))) (Capd (VecIdx Nat 8)))) := rfl
example : (RDesc.stack (.consec (.slice (.collapse (.string (.owned .u8))) (.vec 16)) (.vec 8)) (.vec 8)).Uncoded := by decide
example : (RDesc.stack (.consec (.slice (.collapse (.string (.owned .u8))) (.vec 16)) (.vec 8)) (.vec 8)).ser (by decide) = (inferInstance : Ser (FlatStack (ConsecPairs (SliceRegion (CollapseSequence (StringRegion (OwnedRegion UInt8)) (Nat × Nat)) (Capd (VecIdx (Nat × Nat) 16))) (Capd (VecIdx Nat 8))) (Capd (VecIdx Nat 8)))) := rfl
example : ¬ (RDesc.stack (.consec (.slice (.collapse (.string (.owned .u8))) (.vec 16)) (.vec 8)) (.vec 8)).VecSized := by decide
example : ¬ (RDesc.stack (.consec (.slice (.collapse (.string (.owned .u8))) (.vec 16)) (.vec 8)) (.vec 8)).Reservable := by decide
example : (RDesc.stack (.string (.consec (.owned .u8) .list)) .opt).aux = (inferInstance : RegionAux (FlatStack (StringRegion (ConsecPairs (OwnedRegion UInt8) (Capd IndexList))) (Capd IndexOptimized))) := rfl
example : (RDesc.stack (.string (.consec (.owned .u8) .list)) .opt).heapInv = (inferInstance : HeapInv (FlatStack (StringRegion (ConsecPairs (OwnedRegion UInt8) (Capd IndexList))) (Capd IndexOptimized))) := rfl
example : (RDesc.stack (.string (.consec (.owned .u8) .list)) .opt).stored = (inferInstance : Stored (FlatStack (StringRegion (ConsecPairs (OwnedRegion UInt8) (Capd IndexList))) (Capd IndexOptimized))) := rfl
example : (RDesc.stack (.string (.consec (.owned .u8) .list)) .opt).Uncoded := by decide
example : (RDesc.stack (.string (.consec (.owned .u8) .list)) .opt).ser (by decide) = (inferInstance : Ser (FlatStack (StringRegion (ConsecPairs (OwnedRegion UInt8) (Capd IndexList))) (Capd IndexOptimized))) := rfl
example : ¬ (RDesc.stack (.string (.consec (.owned .u8) .list)) .opt).VecSized := by decide
example : ¬ (RDesc.stack (.string (.consec (.owned .u8) .list)) .opt).Reservable := by decide
example : (RDesc.stack (.columns (.columns (.mirror .nat) (.vec 8)) (.vec 8)) (.vec 8)).aux = (inferInstance : RegionAux (FlatStack (ColumnsRegion (ColumnsRegion (MirrorRegion Nat) Nat (Capd (VecIdx Nat 8))) Nat (Capd (VecIdx Nat 8))) (Capd (VecIdx Nat 8)))) := rfl
example : (RDesc.stack (.columns (.columns (.mirror .nat) (.vec 8)) (.vec 8)) (.vec 8)).heapInv = (inferInstance : HeapInv (FlatStack (ColumnsRegion (ColumnsRegion (MirrorRegion Nat) Nat (Capd (VecIdx Nat 8))) Nat (Capd (VecIdx Nat 8))) (Capd (VecIdx Nat 8)))) := rfl
example : (RDesc.stack (.columns (.columns (.mirror .nat) (.vec 8)) (.vec 8)) (.vec 8)).stored = (inferInstance : Stored (FlatStack (ColumnsRegion (ColumnsRegion (MirrorRegion Nat) Nat (Capd (VecIdx Nat 8))) Nat (Capd (VecIdx Nat 8))) (Capd (VecIdx Nat 8)))) := rfl
example : (RDesc.stack (.columns (.columns (.mirror .nat) (.vec 8)) (.vec 8)) (.vec 8)).Uncoded := by decide
example : (RDesc.stack (.columns (.columns (.mirror .nat) (.vec 8)) (.vec 8)) (.vec 8)).ser (by decide) = (inferInstance : Ser (FlatStack (ColumnsRegion (ColumnsRegion (MirrorRegion Nat) Nat (Capd (VecIdx Nat 8))) Nat (Capd (VecIdx Nat 8))) (Capd (VecIdx Nat 8)))) := rfl
example : ¬ (RDesc.stack (.columns (.columns (.mirror .nat) (.vec 8)) (.vec 8)) (.vec 8)).VecSized := by decide
example : ¬ (RDesc.stack (.columns (.columns (.mirror .nat) (.vec 8)) (.vec 8)) (.vec 8)).Reservable := by decide
example : (RDesc.stack (.columns .huffmanU8 (.vec 8)) .opt).aux = (inferInstance : RegionAux (FlatStack (ColumnsRegion HuffU8 (Nat × Nat) (Capd (VecIdx Nat 8))) (Capd IndexOptimized))) := rfl
example : (RDesc.stack (.columns .huffmanU8 (.vec 8)) .opt).heapInv = (inferInstance : HeapInv (FlatStack (ColumnsRegion HuffU8 (Nat × Nat) (Capd (VecIdx Nat 8))) (Capd IndexOptimized))) := rfl
example : (RDesc.stack (.columns .huffmanU8 (.vec 8)) .opt).stored = (inferInstance : Stored (FlatStack (ColumnsRegion HuffU8 (Nat × Nat) (Capd (VecIdx Nat 8))) (Capd IndexOptimized))) := rfl
example : ¬ (RDesc.stack (.columns .huffmanU8 (.vec 8)) .opt).Uncoded := by decide
example : ¬ (RDesc.stack (.columns .huffmanU8 (.vec 8)) .opt).Serde := by decide
example : ¬ (RDesc.stack (.columns .huffmanU8 (.vec 8)) .opt).VecSized := by decide
example : ¬ (RDesc.stack (.columns .huffmanU8 (.vec 8)) .opt).Reservable := by decide
end FC.CoveredUniverseOps
