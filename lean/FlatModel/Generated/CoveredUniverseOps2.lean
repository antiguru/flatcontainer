-- @generated by tools/gen_covered_universe_ops.py from Generated/CoveredUniverse.lean, CoveredOps.lean, CoveredSer.lean, CoveredHeap.lean -- do not edit
import FlatModel.Props.UniverseSer
import FlatModel.Props.UniverseHeap
import FlatModel.Generated.CoveredOps
import FlatModel.Generated.CoveredSer
import FlatModel.Generated.CoveredHeap
/-! Part 2 of 4 of what Generated/CoveredUniverseOps.lean describes. -/
set_option synthInstance.maxHeartbeats 400000
set_option synthInstance.maxSize 2048
namespace FC.CoveredUniverseOps
open FC FC.Universe
attribute [local instance] SizeEnv.std
attribute [local irreducible] instRegionMirrorRegion instRegionOwnedRegionListProdNat instRegionVecRegionNat instRegionStringRegionListUInt8 instRegionOptionRegionOption instRegionResultRegionExcept instRegionTupleNilUnit instRegionTupleConsProd instRegionCollapseSequenceOfHasEqv instRegionSliceRegionListProdNat instRegionConsecPairsNatOfDenseRegionOfIdxCont instRegionColumnsRegionListNat instRegionRegionListUInt8ProdNat instRegionContainerListNatProd instRegionHuffU8ListUInt8ProdNat instRegionFlatStackNat
example : (RDesc.mirror .unit).aux = (inferInstance : RegionAux (MirrorRegion Unit)) := rfl
example : (RDesc.mirror .unit).heapInv = (inferInstance : HeapInv (MirrorRegion Unit)) := rfl
example : (RDesc.mirror .unit).stored = (inferInstance : Stored (MirrorRegion Unit)) := rfl
example : (RDesc.mirror .unit).Uncoded := by decide
example : (RDesc.mirror .unit).ser (by decide) = (inferInstance : Ser (MirrorRegion Unit)) := rfl
example : (RDesc.mirror .unit).sized (by decide) = (inferInstance : Sized (MirrorRegion Unit)) := rfl
example : (RDesc.mirror .unit).Reservable := by decide
example : (RDesc.owned .unit).aux = (inferInstance : RegionAux (OwnedRegion Unit)) := rfl
example : (RDesc.owned .unit).heapInv = (inferInstance : HeapInv (OwnedRegion Unit)) := rfl
example : (RDesc.owned .unit).stored = (inferInstance : Stored (OwnedRegion Unit)) := rfl
example : (RDesc.owned .unit).Uncoded := by decide
example : (RDesc.owned .unit).ser (by decide) = (inferInstance : Ser (OwnedRegion Unit)) := rfl
example : (RDesc.owned .unit).sized (by decide) = (inferInstance : Sized (OwnedRegion Unit)) := rfl
example : (RDesc.owned .unit).Reservable := by decide
example : (RDesc.huffmanU8).aux = (inferInstance : RegionAux (HuffU8)) := rfl
example : (RDesc.huffmanU8).heapInv = (inferInstance : HeapInv (HuffU8)) := rfl
example : (RDesc.huffmanU8).stored = (inferInstance : Stored (HuffU8)) := rfl
example : ¬ (RDesc.huffmanU8).Uncoded := by decide
example : ¬ (RDesc.huffmanU8).Serde := by decide
example : ¬ (RDesc.huffmanU8).VecSized := by decide
example : ¬ (RDesc.huffmanU8).Reservable := by decide
example : (RDesc.collapse (.mirror .f64)).aux = (inferInstance : RegionAux (CollapseSequence (MirrorRegion F64) F64)) := rfl
example : (RDesc.collapse (.mirror .f64)).heapInv = (inferInstance : HeapInv (CollapseSequence (MirrorRegion F64) F64)) := rfl
example : (RDesc.collapse (.mirror .f64)).stored = (inferInstance : Stored (CollapseSequence (MirrorRegion F64) F64)) := rfl
example : (RDesc.collapse (.mirror .f64)).Uncoded := by decide
example : (RDesc.collapse (.mirror .f64)).ser (by decide) = (inferInstance : Ser (CollapseSequence (MirrorRegion F64) F64)) := rfl
example : ¬ (RDesc.collapse (.mirror .f64)).VecSized := by decide
example : ¬ (RDesc.collapse (.mirror .f64)).Reservable := by decide
example : (RDesc.consec (.owned .u8) .list).aux = (inferInstance : RegionAux (ConsecPairs (OwnedRegion UInt8) (Capd IndexList))) := rfl
example : (RDesc.consec (.owned .u8) .list).heapInv = (inferInstance : HeapInv (ConsecPairs (OwnedRegion UInt8) (Capd IndexList))) := rfl
example : (RDesc.consec (.owned .u8) .list).stored = (inferInstance : Stored (ConsecPairs (OwnedRegion UInt8) (Capd IndexList))) := rfl
example : (RDesc.consec (.owned .u8) .list).Uncoded := by decide
example : (RDesc.consec (.owned .u8) .list).ser (by decide) = (inferInstance : Ser (ConsecPairs (OwnedRegion UInt8) (Capd IndexList))) := rfl
example : ¬ (RDesc.consec (.owned .u8) .list).VecSized := by decide
example : ¬ (RDesc.consec (.owned .u8) .list).Reservable := by decide
example : (RDesc.string (.consec (.owned .u8) .opt)).aux = (inferInstance : RegionAux (StringRegion (ConsecPairs (OwnedRegion UInt8) (Capd IndexOptimized)))) := rfl
example : (RDesc.string (.consec (.owned .u8) .opt)).heapInv = (inferInstance : HeapInv (StringRegion (ConsecPairs (OwnedRegion UInt8) (Capd IndexOptimized)))) := rfl
example : (RDesc.string (.consec (.owned .u8) .opt)).stored = (inferInstance : Stored (StringRegion (ConsecPairs (OwnedRegion UInt8) (Capd IndexOptimized)))) := rfl
example : (RDesc.string (.consec (.owned .u8) .opt)).Uncoded := by decide
example : (RDesc.string (.consec (.owned .u8) .opt)).ser (by decide) = (inferInstance : Ser (StringRegion (ConsecPairs (OwnedRegion UInt8) (Capd IndexOptimized)))) := rfl
example : ¬ (RDesc.string (.consec (.owned .u8) .opt)).VecSized := by decide
example : ¬ (RDesc.string (.consec (.owned .u8) .opt)).Reservable := by decide
example : (RDesc.consec .huffmanU8 .opt).aux = (inferInstance : RegionAux (ConsecPairs HuffU8 (Capd IndexOptimized))) := rfl
example : (RDesc.consec .huffmanU8 .opt).heapInv = (inferInstance : HeapInv (ConsecPairs HuffU8 (Capd IndexOptimized))) := rfl
example : (RDesc.consec .huffmanU8 .opt).stored = (inferInstance : Stored (ConsecPairs HuffU8 (Capd IndexOptimized))) := rfl
example : ¬ (RDesc.consec .huffmanU8 .opt).Uncoded := by decide
example : ¬ (RDesc.consec .huffmanU8 .opt).Serde := by decide
example : ¬ (RDesc.consec .huffmanU8 .opt).VecSized := by decide
example : ¬ (RDesc.consec .huffmanU8 .opt).Reservable := by decide
example : (RDesc.result (.string (.owned .u8)) (.mirror .nat)).aux = (inferInstance : RegionAux (ResultRegion (StringRegion (OwnedRegion UInt8)) (MirrorRegion Nat))) := rfl
example : (RDesc.result (.string (.owned .u8)) (.mirror .nat)).heapInv = (inferInstance : HeapInv (ResultRegion (StringRegion (OwnedRegion UInt8)) (MirrorRegion Nat))) := rfl
example : (RDesc.result (.string (.owned .u8)) (.mirror .nat)).stored = (inferInstance : Stored (ResultRegion (StringRegion (OwnedRegion UInt8)) (MirrorRegion Nat))) := rfl
example : (RDesc.result (.string (.owned .u8)) (.mirror .nat)).Uncoded := by decide
example : (RDesc.result (.string (.owned .u8)) (.mirror .nat)).ser (by decide) = (inferInstance : Ser (ResultRegion (StringRegion (OwnedRegion UInt8)) (MirrorRegion Nat))) := rfl
example : (RDesc.result (.string (.owned .u8)) (.mirror .nat)).sized (by decide) = (inferInstance : Sized (ResultRegion (StringRegion (OwnedRegion UInt8)) (MirrorRegion Nat))) := rfl
example : (RDesc.result (.string (.owned .u8)) (.mirror .nat)).Reservable := by decide
example : (RDesc.tupleCons (.mirror .nat) (.tupleCons (.string (.owned .u8)) (.tupleCons (.slice (.string (.owned .u8)) (.vec 16)) .tupleNil))).aux = (inferInstance : RegionAux (TupleCons (MirrorRegion Nat) (TupleCons (StringRegion (OwnedRegion UInt8)) (TupleCons (SliceRegion (StringRegion (OwnedRegion UInt8)) (Capd (VecIdx (Nat × Nat) 16))) TupleNil)))) := rfl
example : (RDesc.tupleCons (.mirror .nat) (.tupleCons (.string (.owned .u8)) (.tupleCons (.slice (.string (.owned .u8)) (.vec 16)) .tupleNil))).heapInv = (inferInstance : HeapInv (TupleCons (MirrorRegion Nat) (TupleCons (StringRegion (OwnedRegion UInt8)) (TupleCons (SliceRegion (StringRegion (OwnedRegion UInt8)) (Capd (VecIdx (Nat × Nat) 16))) TupleNil)))) := rfl
example : (RDesc.tupleCons (.mirror .nat) (.tupleCons (.string (.owned .u8)) (.tupleCons (.slice (.string (.owned .u8)) (.vec 16)) .tupleNil))).stored = (inferInstance : Stored (TupleCons (MirrorRegion Nat) (TupleCons (StringRegion (OwnedRegion UInt8)) (TupleCons (SliceRegion (StringRegion (OwnedRegion UInt8)) (Capd (VecIdx (Nat × Nat) 16))) TupleNil)))) := rfl
example : (RDesc.tupleCons (.mirror .nat) (.tupleCons (.string (.owned .u8)) (.tupleCons (.slice (.string (.owned .u8)) (.vec 16)) .tupleNil))).Uncoded := by decide
example : (RDesc.tupleCons (.mirror .nat) (.tupleCons (.string (.owned .u8)) (.tupleCons (.slice (.string (.owned .u8)) (.vec 16)) .tupleNil))).ser (by decide) = (inferInstance : Ser (TupleCons (MirrorRegion Nat) (TupleCons (StringRegion (OwnedRegion UInt8)) (TupleCons (SliceRegion (StringRegion (OwnedRegion UInt8)) (Capd (VecIdx (Nat × Nat) 16))) TupleNil)))) := rfl
example : (RDesc.tupleCons (.mirror .nat) (.tupleCons (.string (.owned .u8)) (.tupleCons (.slice (.string (.owned .u8)) (.vec 16)) .tupleNil))).sized (by decide) = (inferInstance : Sized (TupleCons (MirrorRegion Nat) (TupleCons (StringRegion (OwnedRegion UInt8)) (TupleCons (SliceRegion (StringRegion (OwnedRegion UInt8)) (Capd (VecIdx (Nat × Nat) 16))) TupleNil)))) := rfl
example : (RDesc.tupleCons (.mirror .nat) (.tupleCons (.string (.owned .u8)) (.tupleCons (.slice (.string (.owned .u8)) (.vec 16)) .tupleNil))).Reservable := by decide
example : (RDesc.result .codec .huffmanU8).aux = (inferInstance : RegionAux (ResultRegion Codec.Region HuffU8)) := rfl
example : (RDesc.result .codec .huffmanU8).heapInv = (inferInstance : HeapInv (ResultRegion Codec.Region HuffU8)) := rfl
example : (RDesc.result .codec .huffmanU8).stored = (inferInstance : Stored (ResultRegion Codec.Region HuffU8)) := rfl
example : ¬ (RDesc.result .codec .huffmanU8).Uncoded := by decide
example : ¬ (RDesc.result .codec .huffmanU8).Serde := by decide
example : ¬ (RDesc.result .codec .huffmanU8).VecSized := by decide
example : ¬ (RDesc.result .codec .huffmanU8).Reservable := by decide
example : (RDesc.slice (.owned .u8) (.vec 16)).aux = (inferInstance : RegionAux (SliceRegion (OwnedRegion UInt8) (Capd (VecIdx (Nat × Nat) 16)))) := rfl
example : (RDesc.slice (.owned .u8) (.vec 16)).heapInv = (inferInstance : HeapInv (SliceRegion (OwnedRegion UInt8) (Capd (VecIdx (Nat × Nat) 16)))) := rfl
example : (RDesc.slice (.owned .u8) (.vec 16)).stored = (inferInstance : Stored (SliceRegion (OwnedRegion UInt8) (Capd (VecIdx (Nat × Nat) 16)))) := rfl
example : (RDesc.slice (.owned .u8) (.vec 16)).Uncoded := by decide
example : (RDesc.slice (.owned .u8) (.vec 16)).ser (by decide) = (inferInstance : Ser (SliceRegion (OwnedRegion UInt8) (Capd (VecIdx (Nat × Nat) 16)))) := rfl
example : (RDesc.slice (.owned .u8) (.vec 16)).sized (by decide) = (inferInstance : Sized (SliceRegion (OwnedRegion UInt8) (Capd (VecIdx (Nat × Nat) 16)))) := rfl
example : (RDesc.slice (.owned .u8) (.vec 16)).Reservable := by decide
example : (RDesc.slice (.consec (.string (.owned .u8)) .opt) .list).aux = (inferInstance : RegionAux (SliceRegion (ConsecPairs (StringRegion (OwnedRegion UInt8)) (Capd IndexOptimized)) (Capd IndexList))) := rfl
example : (RDesc.slice (.consec (.string (.owned .u8)) .opt) .list).heapInv = (inferInstance : HeapInv (SliceRegion (ConsecPairs (StringRegion (OwnedRegion UInt8)) (Capd IndexOptimized)) (Capd IndexList))) := rfl
example : (RDesc.slice (.consec (.string (.owned .u8)) .opt) .list).stored = (inferInstance : Stored (SliceRegion (ConsecPairs (StringRegion (OwnedRegion UInt8)) (Capd IndexOptimized)) (Capd IndexList))) := rfl
example : (RDesc.slice (.consec (.string (.owned .u8)) .opt) .list).Uncoded := by decide
example : (RDesc.slice (.consec (.string (.owned .u8)) .opt) .list).ser (by decide) = (inferInstance : Ser (SliceRegion (ConsecPairs (StringRegion (OwnedRegion UInt8)) (Capd IndexOptimized)) (Capd IndexList))) := rfl
example : ¬ (RDesc.slice (.consec (.string (.owned .u8)) .opt) .list).VecSized := by decide
example : ¬ (RDesc.slice (.consec (.string (.owned .u8)) .opt) .list).Reservable := by decide
example : (RDesc.slice (.collapse (.string (.owned .u8))) (.vec 16)).aux = (inferInstance : RegionAux (SliceRegion (CollapseSequence (StringRegion (OwnedRegion UInt8)) (Nat × Nat)) (Capd (VecIdx (Nat × Nat) 16)))) := rfl
example : (RDesc.slice (.collapse (.string (.owned .u8))) (.vec 16)).heapInv = (inferInstance : HeapInv (SliceRegion (CollapseSequence (StringRegion (OwnedRegion UInt8)) (Nat × Nat)) (Capd (VecIdx (Nat × Nat) 16)))) := rfl
example : (RDesc.slice (.collapse (.string (.owned .u8))) (.vec 16)).stored = (inferInstance : Stored (SliceRegion (CollapseSequence (StringRegion (OwnedRegion UInt8)) (Nat × Nat)) (Capd (VecIdx (Nat × Nat) 16)))) := rfl
example : (RDesc.slice (.collapse (.string (.owned .u8))) (.vec 16)).Uncoded := by decide
example : (RDesc.slice (.collapse (.string (.owned .u8))) (.vec 16)).ser (by decide) = (inferInstance : Ser (SliceRegion (CollapseSequence (StringRegion (OwnedRegion UInt8)) (Nat × Nat)) (Capd (VecIdx (Nat × Nat) 16)))) := rfl
example : ¬ (RDesc.slice (.collapse (.string (.owned .u8))) (.vec 16)).VecSized := by decide
example : ¬ (RDesc.slice (.collapse (.string (.owned .u8))) (.vec 16)).Reservable := by decide
example : (RDesc.columns (.mirror .nat) (.vec 8)).aux = (inferInstance : RegionAux (ColumnsRegion (MirrorRegion Nat) Nat (Capd (VecIdx Nat 8)))) := rfl
example : (RDesc.columns (.mirror .nat) (.vec 8)).heapInv = (inferInstance : HeapInv (ColumnsRegion (MirrorRegion Nat) Nat (Capd (VecIdx Nat 8)))) := rfl
example : (RDesc.columns (.mirror .nat) (.vec 8)).stored = (inferInstance : Stored (ColumnsRegion (MirrorRegion Nat) Nat (Capd (VecIdx Nat 8)))) := rfl
example : (RDesc.columns (.mirror .nat) (.vec 8)).Uncoded := by decide
example : (RDesc.columns (.mirror .nat) (.vec 8)).ser (by decide) = (inferInstance : Ser (ColumnsRegion (MirrorRegion Nat) Nat (Capd (VecIdx Nat 8)))) := rfl
example : ¬ (RDesc.columns (.mirror .nat) (.vec 8)).VecSized := by decide
example : ¬ (RDesc.columns (.mirror .nat) (.vec 8)).Reservable := by decide
example : (RDesc.columns (.consec (.string (.owned .u8)) .opt) .opt).aux = (inferInstance : RegionAux (ColumnsRegion (ConsecPairs (StringRegion (OwnedRegion UInt8)) (Capd IndexOptimized)) Nat (Capd IndexOptimized))) := rfl
example : (RDesc.columns (.consec (.string (.owned .u8)) .opt) .opt).heapInv = (inferInstance : HeapInv (ColumnsRegion (ConsecPairs (StringRegion (OwnedRegion UInt8)) (Capd IndexOptimized)) Nat (Capd IndexOptimized))) := rfl
example : (RDesc.columns (.consec (.string (.owned .u8)) .opt) .opt).stored = (inferInstance : Stored (ColumnsRegion (ConsecPairs (StringRegion (OwnedRegion UInt8)) (Capd IndexOptimized)) Nat (Capd IndexOptimized))) := rfl
example : (RDesc.columns (.consec (.string (.owned .u8)) .opt) .opt).Uncoded := by decide
example : (RDesc.columns (.consec (.string (.owned .u8)) .opt) .opt).ser (by decide) = (inferInstance : Ser (ColumnsRegion (ConsecPairs (StringRegion (OwnedRegion UInt8)) (Capd IndexOptimized)) Nat (Capd IndexOptimized))) := rfl
example : ¬ (RDesc.columns (.consec (.string (.owned .u8)) .opt) .opt).VecSized := by decide
example : ¬ (RDesc.columns (.consec (.string (.owned .u8)) .opt) .opt).Reservable := by decide
example : (RDesc.slice (.string (.consec (.owned .u8) .list)) .list).aux = (inferInstance : RegionAux (SliceRegion (StringRegion (ConsecPairs (OwnedRegion UInt8) (Capd IndexList))) (Capd IndexList))) := rfl
example : (RDesc.slice (.string (.consec (.owned .u8) .list)) .list).heapInv = (inferInstance : HeapInv (SliceRegion (StringRegion (ConsecPairs (OwnedRegion UInt8) (Capd IndexList))) (Capd IndexList))) := rfl
example : (RDesc.slice (.string (.consec (.owned .u8) .list)) .list).stored = (inferInstance : Stored (SliceRegion (StringRegion (ConsecPairs (OwnedRegion UInt8) (Capd IndexList))) (Capd IndexList))) := rfl
example : (RDesc.slice (.string (.consec (.owned .u8) .list)) .list).Uncoded := by decide
example : (RDesc.slice (.string (.consec (.owned .u8) .list)) .list).ser (by decide) = (inferInstance : Ser (SliceRegion (StringRegion (ConsecPairs (OwnedRegion UInt8) (Capd IndexList))) (Capd IndexList))) := rfl
example : ¬ (RDesc.slice (.string (.consec (.owned .u8) .list)) .list).VecSized := by decide
example : ¬ (RDesc.slice (.string (.consec (.owned .u8) .list)) .list).Reservable := by decide
example : (RDesc.tupleCons (.mirror .nat) (.tupleCons (.mirror .nat) (.tupleCons (.mirror .nat) (.tupleCons (.mirror .nat) (.tupleCons (.mirror .nat) (.tupleCons (.mirror .nat) (.tupleCons (.mirror .nat) (.tupleCons (.mirror .nat) (.tupleCons (.string (.owned .u8)) (.tupleCons (.owned .u8) .tupleNil)))))))))).aux = (inferInstance : RegionAux (TupleCons (MirrorRegion Nat) (TupleCons (MirrorRegion Nat) (TupleCons (MirrorRegion Nat) (TupleCons (MirrorRegion Nat) (TupleCons (MirrorRegion Nat) (TupleCons (MirrorRegion Nat) (TupleCons (MirrorRegion Nat) (TupleCons (MirrorRegion Nat) (TupleCons (StringRegion (OwnedRegion UInt8)) (TupleCons (OwnedRegion UInt8) TupleNil))))))))))) := rfl
example : (RDesc.tupleCons (.mirror .nat) (.tupleCons (.mirror .nat) (.tupleCons (.mirror .nat) (.tupleCons (.mirror .nat) (.tupleCons (.mirror .nat) (.tupleCons (.mirror .nat) (.tupleCons (.mirror .nat) (.tupleCons (.mirror .nat) (.tupleCons (.string (.owned .u8)) (.tupleCons (.owned .u8) .tupleNil)))))))))).heapInv = (inferInstance : HeapInv (TupleCons (MirrorRegion Nat) (TupleCons (MirrorRegion Nat) (TupleCons (MirrorRegion Nat) (TupleCons (MirrorRegion Nat) (TupleCons (MirrorRegion Nat) (TupleCons (MirrorRegion Nat) (TupleCons (MirrorRegion Nat) (TupleCons (MirrorRegion Nat) (TupleCons (StringRegion (OwnedRegion UInt8)) (TupleCons (OwnedRegion UInt8) TupleNil))))))))))) := rfl
example : (RDesc.tupleCons (.mirror .nat) (.tupleCons (.mirror .nat) (.tupleCons (.mirror .nat) (.tupleCons (.mirror .nat) (.tupleCons (.mirror .nat) (.tupleCons (.mirror .nat) (.tupleCons (.mirror .nat) (.tupleCons (.mirror .nat) (.tupleCons (.string (.owned .u8)) (.tupleCons (.owned .u8) .tupleNil)))))))))).stored = (inferInstance : Stored (TupleCons (MirrorRegion Nat) (TupleCons (MirrorRegion Nat) (TupleCons (MirrorRegion Nat) (TupleCons (MirrorRegion Nat) (TupleCons (MirrorRegion Nat) (TupleCons (MirrorRegion Nat) (TupleCons (MirrorRegion Nat) (TupleCons (MirrorRegion Nat) (TupleCons (StringRegion (OwnedRegion UInt8)) (TupleCons (OwnedRegion UInt8) TupleNil))))))))))) := rfl
example : (RDesc.tupleCons (.mirror .nat) (.tupleCons (.mirror .nat) (.tupleCons (.mirror .nat) (.tupleCons (.mirror .nat) (.tupleCons (.mirror .nat) (.tupleCons (.mirror .nat) (.tupleCons (.mirror .nat) (.tupleCons (.mirror .nat) (.tupleCons (.string (.owned .u8)) (.tupleCons (.owned .u8) .tupleNil)))))))))).Uncoded := by decide
example : (RDesc.tupleCons (.mirror .nat) (.tupleCons (.mirror .nat) (.tupleCons (.mirror .nat) (.tupleCons (.mirror .nat) (.tupleCons (.mirror .nat) (.tupleCons (.mirror .nat) (.tupleCons (.mirror .nat) (.tupleCons (.mirror .nat) (.tupleCons (.string (.owned .u8)) (.tupleCons (.owned .u8) .tupleNil)))))))))).ser (by decide) = (inferInstance : Ser (TupleCons (MirrorRegion Nat) (TupleCons (MirrorRegion Nat) (TupleCons (MirrorRegion Nat) (TupleCons (MirrorRegion Nat) (TupleCons (MirrorRegion Nat) (TupleCons (MirrorRegion Nat) (TupleCons (MirrorRegion Nat) (TupleCons (MirrorRegion Nat) (TupleCons (StringRegion (OwnedRegion UInt8)) (TupleCons (OwnedRegion UInt8) TupleNil))))))))))) := rfl
example : (RDesc.tupleCons (.mirror .nat) (.tupleCons (.mirror .nat) (.tupleCons (.mirror .nat) (.tupleCons (.mirror .nat) (.tupleCons (.mirror .nat) (.tupleCons (.mirror .nat) (.tupleCons (.mirror .nat) (.tupleCons (.mirror .nat) (.tupleCons (.string (.owned .u8)) (.tupleCons (.owned .u8) .tupleNil)))))))))).sized (by decide) = (inferInstance : Sized (TupleCons (MirrorRegion Nat) (TupleCons (MirrorRegion Nat) (TupleCons (MirrorRegion Nat) (TupleCons (MirrorRegion Nat) (TupleCons (MirrorRegion Nat) (TupleCons (MirrorRegion Nat) (TupleCons (MirrorRegion Nat) (TupleCons (MirrorRegion Nat) (TupleCons (StringRegion (OwnedRegion UInt8)) (TupleCons (OwnedRegion UInt8) TupleNil))))))))))) := rfl
example : (RDesc.tupleCons (.mirror .nat) (.tupleCons (.mirror .nat) (.tupleCons (.mirror .nat) (.tupleCons (.mirror .nat) (.tupleCons (.mirror .nat) (.tupleCons (.mirror .nat) (.tupleCons (.mirror .nat) (.tupleCons (.mirror .nat) (.tupleCons (.string (.owned .u8)) (.tupleCons (.owned .u8) .tupleNil)))))))))).Reservable := by decide
example : (RDesc.stack (.mirror .nat) .list).aux = (inferInstance : RegionAux (FlatStack (MirrorRegion Nat) (Capd IndexList))) := rfl
example : (RDesc.stack (.mirror .nat) .list).heapInv = (inferInstance : HeapInv (FlatStack (MirrorRegion Nat) (Capd IndexList))) := rfl
example : (RDesc.stack (.mirror .nat) .list).stored = (inferInstance : Stored (FlatStack (MirrorRegion Nat) (Capd IndexList))) := rfl
example : (RDesc.stack (.mirror .nat) .list).Uncoded := by decide
example : (RDesc.stack (.mirror .nat) .list).ser (by decide) = (inferInstance : Ser (FlatStack (MirrorRegion Nat) (Capd IndexList))) := rfl
example : ¬ (RDesc.stack (.mirror .nat) .list).VecSized := by decide
example : ¬ (RDesc.stack (.mirror .nat) .list).Reservable := by decide
example : (RDesc.stack (.mirror .f64) (.vec 8)).aux = (inferInstance : RegionAux (FlatStack (MirrorRegion F64) (Capd (VecIdx F64 8)))) := rfl
example : (RDesc.stack (.mirror .f64) (.vec 8)).heapInv = (inferInstance : HeapInv (FlatStack (MirrorRegion F64) (Capd (VecIdx F64 8)))) := rfl
example : (RDesc.stack (.mirror .f64) (.vec 8)).stored = (inferInstance : Stored (FlatStack (MirrorRegion F64) (Capd (VecIdx F64 8)))) := rfl
example : (RDesc.stack (.mirror .f64) (.vec 8)).Uncoded := by decide
example : (RDesc.stack (.mirror .f64) (.vec 8)).ser (by decide) = (inferInstance : Ser (FlatStack (MirrorRegion F64) (Capd (VecIdx F64 8)))) := rfl
example : (RDesc.stack (.mirror .f64) (.vec 8)).sized (by decide) = (inferInstance : Sized (FlatStack (MirrorRegion F64) (Capd (VecIdx F64 8)))) := rfl
example : ¬ (RDesc.stack (.mirror .f64) (.vec 8)).Reservable := by decide
example : (RDesc.stack (.vec .nat) (.vec 8)).aux = (inferInstance : RegionAux (FlatStack (VecRegion Nat) (Capd (VecIdx Nat 8)))) := rfl
example : (RDesc.stack (.vec .nat) (.vec 8)).heapInv = (inferInstance : HeapInv (FlatStack (VecRegion Nat) (Capd (VecIdx Nat 8)))) := rfl
example : (RDesc.stack (.vec .nat) (.vec 8)).stored = (inferInstance : Stored (FlatStack (VecRegion Nat) (Capd (VecIdx Nat 8)))) := rfl
example : (RDesc.stack (.vec .nat) (.vec 8)).Uncoded := by decide
example : (RDesc.stack (.vec .nat) (.vec 8)).ser (by decide) = (inferInstance : Ser (FlatStack (VecRegion Nat) (Capd (VecIdx Nat 8)))) := rfl
example : (RDesc.stack (.vec .nat) (.vec 8)).sized (by decide) = (inferInstance : Sized (FlatStack (VecRegion Nat) (Capd (VecIdx Nat 8)))) := rfl
example : ¬ (RDesc.stack (.vec .nat) (.vec 8)).Reservable := by decide
example : (RDesc.stack (.vec (.list .u8)) .opt).aux = (inferInstance : RegionAux (FlatStack (VecRegion (List UInt8)) (Capd IndexOptimized))) := rfl
example : (RDesc.stack (.vec (.list .u8)) .opt).heapInv = (inferInstance : HeapInv (FlatStack (VecRegion (List UInt8)) (Capd IndexOptimized))) := rfl
example : (RDesc.stack (.vec (.list .u8)) .opt).stored = (inferInstance : Stored (FlatStack (VecRegion (List UInt8)) (Capd IndexOptimized))) := rfl
example : (RDesc.stack (.vec (.list .u8)) .opt).Uncoded := by decide
example : (RDesc.stack (.vec (.list .u8)) .opt).ser (by decide) = (inferInstance : Ser (FlatStack (VecRegion (List UInt8)) (Capd IndexOptimized))) := rfl
example : ¬ (RDesc.stack (.vec (.list .u8)) .opt).VecSized := by decide
example : ¬ (RDesc.stack (.vec (.list .u8)) .opt).Reservable := by decide
example : (RDesc.stack .huffman (.vec 16)).aux = (inferInstance : RegionAux (FlatStack Huff.Container (Capd (VecIdx (Nat × Nat) 16)))) := rfl
example : (RDesc.stack .huffman (.vec 16)).heapInv = (inferInstance : HeapInv (FlatStack Huff.Container (Capd (VecIdx (Nat × Nat) 16)))) := rfl
example : (RDesc.stack .huffman (.vec 16)).stored = (inferInstance : Stored (FlatStack Huff.Container (Capd (VecIdx (Nat × Nat) 16)))) := rfl
example : ¬ (RDesc.stack .huffman (.vec 16)).Uncoded := by decide
example : ¬ (RDesc.stack .huffman (.vec 16)).Serde := by decide
example : ¬ (RDesc.stack .huffman (.vec 16)).VecSized := by decide
example : ¬ (RDesc.stack .huffman (.vec 16)).Reservable := by decide
example : (RDesc.stack (.collapse (.owned .u8)) (.vec 16)).aux = (inferInstance : RegionAux (FlatStack (CollapseSequence (OwnedRegion UInt8) (Nat × Nat)) (Capd (VecIdx (Nat × Nat) 16)))) := rfl
example : (RDesc.stack (.collapse (.owned .u8)) (.vec 16)).heapInv = (inferInstance : HeapInv (FlatStack (CollapseSequence (OwnedRegion UInt8) (Nat × Nat)) (Capd (VecIdx (Nat × Nat) 16)))) := rfl
example : (RDesc.stack (.collapse (.owned .u8)) (.vec 16)).stored = (inferInstance : Stored (FlatStack (CollapseSequence (OwnedRegion UInt8) (Nat × Nat)) (Capd (VecIdx (Nat × Nat) 16)))) := rfl
example : (RDesc.stack (.collapse (.owned .u8)) (.vec 16)).Uncoded := by decide
example : (RDesc.stack (.collapse (.owned .u8)) (.vec 16)).ser (by decide) = (inferInstance : Ser (FlatStack (CollapseSequence (OwnedRegion UInt8) (Nat × Nat)) (Capd (VecIdx (Nat × Nat) 16)))) := rfl
example : ¬ (RDesc.stack (.collapse (.owned .u8)) (.vec 16)).VecSized := by decide
example : ¬ (RDesc.stack (.collapse (.owned .u8)) (.vec 16)).Reservable := by decide
example : (RDesc.stack (.consec (.owned .u8) .opt) (.vec 8)).aux = (inferInstance : RegionAux (FlatStack (ConsecPairs (OwnedRegion UInt8) (Capd IndexOptimized)) (Capd (VecIdx Nat 8)))) := rfl
example : (RDesc.stack (.consec (.owned .u8) .opt) (.vec 8)).heapInv = (inferInstance : HeapInv (FlatStack (ConsecPairs (OwnedRegion UInt8) (Capd IndexOptimized)) (Capd (VecIdx Nat 8)))) := rfl
example : (RDesc.stack (.consec (.owned .u8) .opt) (.vec 8)).stored = (inferInstance : Stored (FlatStack (ConsecPairs (OwnedRegion UInt8) (Capd IndexOptimized)) (Capd (VecIdx Nat 8)))) := rfl
example : (RDesc.stack (.consec (.owned .u8) .opt) (.vec 8)).Uncoded := by decide
example : (RDesc.stack (.consec (.owned .u8) .opt) (.vec 8)).ser (by decide) = (inferInstance : Ser (FlatStack (ConsecPairs (OwnedRegion UInt8) (Capd IndexOptimized)) (Capd (VecIdx Nat 8)))) := rfl
example : ¬ (RDesc.stack (.consec (.owned .u8) .opt) (.vec 8)).VecSized := by decide
example : ¬ (RDesc.stack (.consec (.owned .u8) .opt) (.vec 8)).Reservable := by decide
example : (RDesc.stack (.consec (.owned .u8) .list) .opt).aux = (inferInstance : RegionAux (FlatStack (ConsecPairs (OwnedRegion UInt8) (Capd IndexList)) (Capd IndexOptimized))) := rfl
example : (RDesc.stack (.consec (.owned .u8) .list) .opt).heapInv = (inferInstance : HeapInv (FlatStack (ConsecPairs (OwnedRegion UInt8) (Capd IndexList)) (Capd IndexOptimized))) := rfl
example : (RDesc.stack (.consec (.owned .u8) .list) .opt).stored = (inferInstance : Stored (FlatStack (ConsecPairs (OwnedRegion UInt8) (Capd IndexList)) (Capd IndexOptimized))) := rfl
example : (RDesc.stack (.consec (.owned .u8) .list) .opt).Uncoded := by decide
example : (RDesc.stack (.consec (.owned .u8) .list) .opt).ser (by decide) = (inferInstance : Ser (FlatStack (ConsecPairs (OwnedRegion UInt8) (Capd IndexList)) (Capd IndexOptimized))) := rfl
example : ¬ (RDesc.stack (.consec (.owned .u8) .list) .opt).VecSized := by decide
example : ¬ (RDesc.stack (.consec (.owned .u8) .list) .opt).Reservable := by decide
example : (RDesc.stack (.consec (.string (.owned .u8)) (.vec 8)) .list).aux = (inferInstance : RegionAux (FlatStack (ConsecPairs (StringRegion (OwnedRegion UInt8)) (Capd (VecIdx Nat 8))) (Capd IndexList))) := rfl
example : (RDesc.stack (.consec (.string (.owned .u8)) (.vec 8)) .list).heapInv = (inferInstance : HeapInv (FlatStack (ConsecPairs (StringRegion (OwnedRegion UInt8)) (Capd (VecIdx Nat 8))) (Capd IndexList))) := rfl
example : (RDesc.stack (.consec (.string (.owned .u8)) (.vec 8)) .list).stored = (inferInstance : Stored (FlatStack (ConsecPairs (StringRegion (OwnedRegion UInt8)) (Capd (VecIdx Nat 8))) (Capd IndexList))) := rfl
example : (RDesc.stack (.consec (.string (.owned .u8)) (.vec 8)) .list).Uncoded := by decide
example : (RDesc.stack (.consec (.string (.owned .u8)) (.vec 8)) .list).ser (by decide) = (inferInstance : Ser (FlatStack (ConsecPairs (StringRegion (OwnedRegion UInt8)) (Capd (VecIdx Nat 8))) (Capd IndexList))) := rfl
example : ¬ (RDesc.stack (.consec (.string (.owned .u8)) (.vec 8)) .list).VecSized := by decide
example : ¬ (RDesc.stack (.consec (.string (.owned .u8)) (.vec 8)) .list).Reservable := by decide
example : (RDesc.stack (.consec (.string (.owned .u8)) .list) (.vec 8)).aux = (inferInstance : RegionAux (FlatStack (ConsecPairs (StringRegion (OwnedRegion UInt8)) (Capd IndexList)) (Capd (VecIdx Nat 8)))) := rfl
example : (RDesc.stack (.consec (.string (.owned .u8)) .list) (.vec 8)).heapInv = (inferInstance : HeapInv (FlatStack (ConsecPairs (StringRegion (OwnedRegion UInt8)) (Capd IndexList)) (Capd (VecIdx Nat 8)))) := rfl
example : (RDesc.stack (.consec (.string (.owned .u8)) .list) (.vec 8)).stored = (inferInstance : Stored (FlatStack (ConsecPairs (StringRegion (OwnedRegion UInt8)) (Capd IndexList)) (Capd (VecIdx Nat 8)))) := rfl
example : (RDesc.stack (.consec (.string (.owned .u8)) .list) (.vec 8)).Uncoded := by decide
example : (RDesc.stack (.consec (.string (.owned .u8)) .list) (.vec 8)).ser (by decide) = (inferInstance : Ser (FlatStack (ConsecPairs (StringRegion (OwnedRegion UInt8)) (Capd IndexList)) (Capd (VecIdx Nat 8)))) := rfl
example : ¬ (RDesc.stack (.consec (.string (.owned .u8)) .list) (.vec 8)).VecSized := by decide
example : ¬ (RDesc.stack (.consec (.string (.owned .u8)) .list) (.vec 8)).Reservable := by decide
example : (RDesc.stack (.string (.consec (.owned .u8) .opt)) .opt).aux = (inferInstance : RegionAux (FlatStack (StringRegion (ConsecPairs (OwnedRegion UInt8) (Capd IndexOptimized))) (Capd IndexOptimized))) := rfl
example : (RDesc.stack (.string (.consec (.owned .u8) .opt)) .opt).heapInv = (inferInstance : HeapInv (FlatStack (StringRegion (ConsecPairs (OwnedRegion UInt8) (Capd IndexOptimized))) (Capd IndexOptimized))) := rfl
example : (RDesc.stack (.string (.consec (.owned .u8) .opt)) .opt).stored = (inferInstance : Stored (FlatStack (StringRegion (ConsecPairs (OwnedRegion UInt8) (Capd IndexOptimized))) (Capd IndexOptimized))) := rfl
example : (RDesc.stack (.string (.consec (.owned .u8) .opt)) .opt).Uncoded := by decide
example : (RDesc.stack (.string (.consec (.owned .u8) .opt)) .opt).ser (by decide) = (inferInstance : Ser (FlatStack (StringRegion (ConsecPairs (OwnedRegion UInt8) (Capd IndexOptimized))) (Capd IndexOptimized))) := rfl
example : ¬ (RDesc.stack (.string (.consec (.owned .u8) .opt)) .opt).VecSized := by decide
example : ¬ (RDesc.stack (.string (.consec (.owned .u8) .opt)) .opt).Reservable := by decide
example : (RDesc.stack (.collapse (.consec (.string (.owned .u8)) .opt)) (.vec 8)).aux = (inferInstance : RegionAux (FlatStack (CollapseSequence (ConsecPairs (StringRegion (OwnedRegion UInt8)) (Capd IndexOptimized)) Nat) (Capd (VecIdx Nat 8)))) := rfl
example : (RDesc.stack (.collapse (.consec (.string (.owned .u8)) .opt)) (.vec 8)).heapInv = (inferInstance : HeapInv (FlatStack (CollapseSequence (ConsecPairs (StringRegion (OwnedRegion UInt8)) (Capd IndexOptimized)) Nat) (Capd (VecIdx Nat 8)))) := rfl
example : (RDesc.stack (.collapse (.consec (.string (.owned .u8)) .opt)) (.vec 8)).stored = (inferInstance : Stored (FlatStack (CollapseSequence (ConsecPairs (StringRegion (OwnedRegion UInt8)) (Capd IndexOptimized)) Nat) (Capd (VecIdx Nat 8)))) := rfl
example : (RDesc.stack (.collapse (.consec (.string (.owned .u8)) .opt)) (.vec 8)).Uncoded := by decide
example : (RDesc.stack (.collapse (.consec (.string (.owned .u8)) .opt)) (.vec 8)).ser (by decide) = (inferInstance : Ser (FlatStack (CollapseSequence (ConsecPairs (StringRegion (OwnedRegion UInt8)) (Capd IndexOptimized)) Nat) (Capd (VecIdx Nat 8)))) := rfl
example : ¬ (RDesc.stack (.collapse (.consec (.string (.owned .u8)) .opt)) (.vec 8)).VecSized := by decide
example : ¬ (RDesc.stack (.collapse (.consec (.string (.owned .u8)) .opt)) (.vec 8)).Reservable := by decide
example : (RDesc.stack (.consec .huffmanU8 .opt) .opt).aux = (inferInstance : RegionAux (FlatStack (ConsecPairs HuffU8 (Capd IndexOptimized)) (Capd IndexOptimized))) := rfl
example : (RDesc.stack (.consec .huffmanU8 .opt) .opt).heapInv = (inferInstance : HeapInv (FlatStack (ConsecPairs HuffU8 (Capd IndexOptimized)) (Capd IndexOptimized))) := rfl
example : (RDesc.stack (.consec .huffmanU8 .opt) .opt).stored = (inferInstance : Stored (FlatStack (ConsecPairs HuffU8 (Capd IndexOptimized)) (Capd IndexOptimized))) := rfl
example : ¬ (RDesc.stack (.consec .huffmanU8 .opt) .opt).Uncoded := by decide
example : ¬ (RDesc.stack (.consec .huffmanU8 .opt) .opt).Serde := by decide
example : ¬ (RDesc.stack (.consec .huffmanU8 .opt) .opt).VecSized := by decide
example : ¬ (RDesc.stack (.consec .huffmanU8 .opt) .opt).Reservable := by decide
example : (RDesc.stack (.consec .codec .opt) .list).aux = (inferInstance : RegionAux (FlatStack (ConsecPairs Codec.Region (Capd IndexOptimized)) (Capd IndexList))) := rfl
example : (RDesc.stack (.consec .codec .opt) .list).heapInv = (inferInstance : HeapInv (FlatStack (ConsecPairs Codec.Region (Capd IndexOptimized)) (Capd IndexList))) := rfl
example : (RDesc.stack (.consec .codec .opt) .list).stored = (inferInstance : Stored (FlatStack (ConsecPairs Codec.Region (Capd IndexOptimized)) (Capd IndexList))) := rfl
example : ¬ (RDesc.stack (.consec .codec .opt) .list).Uncoded := by decide
example : ¬ (RDesc.stack (.consec .codec .opt) .list).Serde := by decide
example : ¬ (RDesc.stack (.consec .codec .opt) .list).VecSized := by decide
example : ¬ (RDesc.stack (.consec .codec .opt) .list).Reservable := by decide
example : (RDesc.stack (.result (.slice (.mirror .nat) (.vec 1)) (.string (.owned .u8))) (.vec 24)).aux = (inferInstance : RegionAux (FlatStack (ResultRegion (SliceRegion (MirrorRegion Nat) (Capd (VecIdx Nat 1))) (StringRegion (OwnedRegion UInt8))) (Capd (VecIdx (Except (Nat × Nat) (Nat × Nat)) 24)))) := rfl
example : (RDesc.stack (.result (.slice (.mirror .nat) (.vec 1)) (.string (.owned .u8))) (.vec 24)).heapInv = (inferInstance : HeapInv (FlatStack (ResultRegion (SliceRegion (MirrorRegion Nat) (Capd (VecIdx Nat 1))) (StringRegion (OwnedRegion UInt8))) (Capd (VecIdx (Except (Nat × Nat) (Nat × Nat)) 24)))) := rfl
example : (RDesc.stack (.result (.slice (.mirror .nat) (.vec 1)) (.string (.owned .u8))) (.vec 24)).stored = (inferInstance : Stored (FlatStack (ResultRegion (SliceRegion (MirrorRegion Nat) (Capd (VecIdx Nat 1))) (StringRegion (OwnedRegion UInt8))) (Capd (VecIdx (Except (Nat × Nat) (Nat × Nat)) 24)))) := rfl
example : (RDesc.stack (.result (.slice (.mirror .nat) (.vec 1)) (.string (.owned .u8))) (.vec 24)).Uncoded := by decide
example : (RDesc.stack (.result (.slice (.mirror .nat) (.vec 1)) (.string (.owned .u8))) (.vec 24)).ser (by decide) = (inferInstance : Ser (FlatStack (ResultRegion (SliceRegion (MirrorRegion Nat) (Capd (VecIdx Nat 1))) (StringRegion (OwnedRegion UInt8))) (Capd (VecIdx (Except (Nat × Nat) (Nat × Nat)) 24)))) := rfl
example : (RDesc.stack (.result (.slice (.mirror .nat) (.vec 1)) (.string (.owned .u8))) (.vec 24)).sized (by decide) = (inferInstance : Sized (FlatStack (ResultRegion (SliceRegion (MirrorRegion Nat) (Capd (VecIdx Nat 1))) (StringRegion (OwnedRegion UInt8))) (Capd (VecIdx (Except (Nat × Nat) (Nat × Nat)) 24)))) := rfl
example : ¬ (RDesc.stack (.result (.slice (.mirror .nat) (.vec 1)) (.string (.owned .u8))) (.vec 24)).Reservable := by decide
example : (RDesc.stack (.tupleCons (.option (.string (.owned .u8))) (.tupleCons (.owned .nat) .tupleNil)) (.vec 40)).aux = (inferInstance : RegionAux (FlatStack (TupleCons (OptionRegion (StringRegion (OwnedRegion UInt8))) (TupleCons (OwnedRegion Nat) TupleNil)) (Capd (VecIdx ((Option (Nat × Nat)) × ((Nat × Nat) × Unit)) 40)))) := rfl
example : (RDesc.stack (.tupleCons (.option (.string (.owned .u8))) (.tupleCons (.owned .nat) .tupleNil)) (.vec 40)).heapInv = (inferInstance : HeapInv (FlatStack (TupleCons (OptionRegion (StringRegion (OwnedRegion UInt8))) (TupleCons (OwnedRegion Nat) TupleNil)) (Capd (VecIdx ((Option (Nat × Nat)) × ((Nat × Nat) × Unit)) 40)))) := rfl
example : (RDesc.stack (.tupleCons (.option (.string (.owned .u8))) (.tupleCons (.owned .nat) .tupleNil)) (.vec 40)).stored = (inferInstance : Stored (FlatStack (TupleCons (OptionRegion (StringRegion (OwnedRegion UInt8))) (TupleCons (OwnedRegion Nat) TupleNil)) (Capd (VecIdx ((Option (Nat × Nat)) × ((Nat × Nat) × Unit)) 40)))) := rfl
example : (RDesc.stack (.tupleCons (.option (.string (.owned .u8))) (.tupleCons (.owned .nat) .tupleNil)) (.vec 40)).Uncoded := by decide
example : (RDesc.stack (.tupleCons (.option (.string (.owned .u8))) (.tupleCons (.owned .nat) .tupleNil)) (.vec 40)).ser (by decide) = (inferInstance : Ser (FlatStack (TupleCons (OptionRegion (StringRegion (OwnedRegion UInt8))) (TupleCons (OwnedRegion Nat) TupleNil)) (Capd (VecIdx ((Option (Nat × Nat)) × ((Nat × Nat) × Unit)) 40)))) := rfl
example : (RDesc.stack (.tupleCons (.option (.string (.owned .u8))) (.tupleCons (.owned .nat) .tupleNil)) (.vec 40)).sized (by decide) = (inferInstance : Sized (FlatStack (TupleCons (OptionRegion (StringRegion (OwnedRegion UInt8))) (TupleCons (OwnedRegion Nat) TupleNil)) (Capd (VecIdx ((Option (Nat × Nat)) × ((Nat × Nat) × Unit)) 40)))) := rfl
example : ¬ (RDesc.stack (.tupleCons (.option (.string (.owned .u8))) (.tupleCons (.owned .nat) .tupleNil)) (.vec 40)).Reservable := by decide
example : (RDesc.stack (.tupleCons (.mirror .nat) (.tupleCons (.mirror .nat) (.tupleCons (.mirror .nat) (.tupleCons (.mirror .nat) (.tupleCons (.mirror .nat) (.tupleCons (.mirror .nat) (.tupleCons (.mirror .nat) (.tupleCons (.mirror .nat) (.tupleCons (.mirror .nat) (.tupleCons (.mirror .nat) (.tupleCons (.mirror .nat) (.tupleCons (.mirror .nat) (.tupleCons (.mirror .nat) (.tupleCons (.mirror .nat) (.tupleCons (.mirror .nat) (.tupleCons (.mirror .nat) .tupleNil)))))))))))))))) (.vec 16)).aux = (inferInstance : RegionAux (FlatStack (TupleCons (MirrorRegion Nat) (TupleCons (MirrorRegion Nat) (TupleCons (MirrorRegion Nat) (TupleCons (MirrorRegion Nat) (TupleCons (MirrorRegion Nat) (TupleCons (MirrorRegion Nat) (TupleCons (MirrorRegion Nat) (TupleCons (MirrorRegion Nat) (TupleCons (MirrorRegion Nat) (TupleCons (MirrorRegion Nat) (TupleCons (MirrorRegion Nat) (TupleCons (MirrorRegion Nat) (TupleCons (MirrorRegion Nat) (TupleCons (MirrorRegion Nat) (TupleCons (MirrorRegion Nat) (TupleCons (MirrorRegion Nat) TupleNil)))))))))))))))) (Capd (VecIdx (Nat × (Nat × (Nat × (Nat × (Nat × (Nat × (Nat × (Nat × (Nat × (Nat × (Nat × (Nat × (Nat × (Nat × (Nat × (Nat × Unit)))))))))))))))) 16)))) := rfl
example : (RDesc.stack (.tupleCons (.mirror .nat) (.tupleCons (.mirror .nat) (.tupleCons (.mirror .nat) (.tupleCons (.mirror .nat) (.tupleCons (.mirror .nat) (.tupleCons (.mirror .nat) (.tupleCons (.mirror .nat) (.tupleCons (.mirror .nat) (.tupleCons (.mirror .nat) (.tupleCons (.mirror .nat) (.tupleCons (.mirror .nat) (.tupleCons (.mirror .nat) (.tupleCons (.mirror .nat) (.tupleCons (.mirror .nat) (.tupleCons (.mirror .nat) (.tupleCons (.mirror .nat) .tupleNil)))))))))))))))) (.vec 16)).heapInv = (inferInstance : HeapInv (FlatStack (TupleCons (MirrorRegion Nat) (TupleCons (MirrorRegion Nat) (TupleCons (MirrorRegion Nat) (TupleCons (MirrorRegion Nat) (TupleCons (MirrorRegion Nat) (TupleCons (MirrorRegion Nat) (TupleCons (MirrorRegion Nat) (TupleCons (MirrorRegion Nat) (TupleCons (MirrorRegion Nat) (TupleCons (MirrorRegion Nat) (TupleCons (MirrorRegion Nat) (TupleCons (MirrorRegion Nat) (TupleCons (MirrorRegion Nat) (TupleCons (MirrorRegion Nat) (TupleCons (MirrorRegion Nat) (TupleCons (MirrorRegion Nat) TupleNil)))))))))))))))) (Capd (VecIdx (Nat × (Nat × (Nat × (Nat × (Nat × (Nat × (Nat × (Nat × (Nat × (Nat × (Nat × (Nat × (Nat × (Nat × (Nat × (Nat × Unit)))))))))))))))) 16)))) := rfl
example : (RDesc.stack (.tupleCons (.mirror .nat) (.tupleCons (.mirror .nat) (.tupleCons (.mirror .nat) (.tupleCons (.mirror .nat) (.tupleCons (.mirror .nat) (.tupleCons (.mirror .nat) (.tupleCons (.mirror .nat) (.tupleCons (.mirror .nat) (.tupleCons (.mirror .nat) (.tupleCons (.mirror .nat) (.tupleCons (.mirror .nat) (.tupleCons (.mirror .nat) (.tupleCons (.mirror .nat) (.tupleCons (.mirror .nat) (.tupleCons (.mirror .nat) (.tupleCons (.mirror .nat) .tupleNil)))))))))))))))) (.vec 16)).stored = (inferInstance : Stored (FlatStack (TupleCons (MirrorRegion Nat) (TupleCons (MirrorRegion Nat) (TupleCons (MirrorRegion Nat) (TupleCons (MirrorRegion Nat) (TupleCons (MirrorRegion Nat) (TupleCons (MirrorRegion Nat) (TupleCons (MirrorRegion Nat) (TupleCons (MirrorRegion Nat) (TupleCons (MirrorRegion Nat) (TupleCons (MirrorRegion Nat) (TupleCons (MirrorRegion Nat) (TupleCons (MirrorRegion Nat) (TupleCons (MirrorRegion Nat) (TupleCons (MirrorRegion Nat) (TupleCons (MirrorRegion Nat) (TupleCons (MirrorRegion Nat) TupleNil)))))))))))))))) (Capd (VecIdx (Nat × (Nat × (Nat × (Nat × (Nat × (Nat × (Nat × (Nat × (Nat × (Nat × (Nat × (Nat × (Nat × (Nat × (Nat × (Nat × Unit)))))))))))))))) 16)))) := rfl
example : (RDesc.stack (.tupleCons (.mirror .nat) (.tupleCons (.mirror .nat) (.tupleCons (.mirror .nat) (.tupleCons (.mirror .nat) (.tupleCons (.mirror .nat) (.tupleCons (.mirror .nat) (.tupleCons (.mirror .nat) (.tupleCons (.mirror .nat) (.tupleCons (.mirror .nat) (.tupleCons (.mirror .nat) (.tupleCons (.mirror .nat) (.tupleCons (.mirror .nat) (.tupleCons (.mirror .nat) (.tupleCons (.mirror .nat) (.tupleCons (.mirror .nat) (.tupleCons (.mirror .nat) .tupleNil)))))))))))))))) (.vec 16)).Uncoded := by decide
example : (RDesc.stack (.tupleCons (.mirror .nat) (.tupleCons (.mirror .nat) (.tupleCons (.mirror .nat) (.tupleCons (.mirror .nat) (.tupleCons (.mirror .nat) (.tupleCons (.mirror .nat) (.tupleCons (.mirror .nat) (.tupleCons (.mirror .nat) (.tupleCons (.mirror .nat) (.tupleCons (.mirror .nat) (.tupleCons (.mirror .nat) (.tupleCons (.mirror .nat) (.tupleCons (.mirror .nat) (.tupleCons (.mirror .nat) (.tupleCons (.mirror .nat) (.tupleCons (.mirror .nat) .tupleNil)))))))))))))))) (.vec 16)).ser (by decide) = (inferInstance : Ser (FlatStack (TupleCons (MirrorRegion Nat) (TupleCons (MirrorRegion Nat) (TupleCons (MirrorRegion Nat) (TupleCons (MirrorRegion Nat) (TupleCons (MirrorRegion Nat) (TupleCons (MirrorRegion Nat) (TupleCons (MirrorRegion Nat) (TupleCons (MirrorRegion Nat) (TupleCons (MirrorRegion Nat) (TupleCons (MirrorRegion Nat) (TupleCons (MirrorRegion Nat) (TupleCons (MirrorRegion Nat) (TupleCons (MirrorRegion Nat) (TupleCons (MirrorRegion Nat) (TupleCons (MirrorRegion Nat) (TupleCons (MirrorRegion Nat) TupleNil)))))))))))))))) (Capd (VecIdx (Nat × (Nat × (Nat × (Nat × (Nat × (Nat × (Nat × (Nat × (Nat × (Nat × (Nat × (Nat × (Nat × (Nat × (Nat × (Nat × Unit)))))))))))))))) 16)))) := rfl
example : (RDesc.stack (.tupleCons (.mirror .nat) (.tupleCons (.mirror .nat) (.tupleCons (.mirror .nat) (.tupleCons (.mirror .nat) (.tupleCons (.mirror .nat) (.tupleCons (.mirror .nat) (.tupleCons (.mirror .nat) (.tupleCons (.mirror .nat) (.tupleCons (.mirror .nat) (.tupleCons (.mirror .nat) (.tupleCons (.mirror .nat) (.tupleCons (.mirror .nat) (.tupleCons (.mirror .nat) (.tupleCons (.mirror .nat) (.tupleCons (.mirror .nat) (.tupleCons (.mirror .nat) .tupleNil)))))))))))))))) (.vec 16)).sized (by decide) = (inferInstance : Sized (FlatStack (TupleCons (MirrorRegion Nat) (TupleCons (MirrorRegion Nat) (TupleCons (MirrorRegion Nat) (TupleCons (MirrorRegion Nat) (TupleCons (MirrorRegion Nat) (TupleCons (MirrorRegion Nat) (TupleCons (MirrorRegion Nat) (TupleCons (MirrorRegion Nat) (TupleCons (MirrorRegion Nat) (TupleCons (MirrorRegion Nat) (TupleCons (MirrorRegion Nat) (TupleCons (MirrorRegion Nat) (TupleCons (MirrorRegion Nat) (TupleCons (MirrorRegion Nat) (TupleCons (MirrorRegion Nat) (TupleCons (MirrorRegion Nat) TupleNil)))))))))))))))) (Capd (VecIdx (Nat × (Nat × (Nat × (Nat × (Nat × (Nat × (Nat × (Nat × (Nat × (Nat × (Nat × (Nat × (Nat × (Nat × (Nat × (Nat × Unit)))))))))))))))) 16)))) := rfl
example : ¬ (RDesc.stack (.tupleCons (.mirror .nat) (.tupleCons (.mirror .nat) (.tupleCons (.mirror .nat) (.tupleCons (.mirror .nat) (.tupleCons (.mirror .nat) (.tupleCons (.mirror .nat) (.tupleCons (.mirror .nat) (.tupleCons (.mirror .nat) (.tupleCons (.mirror .nat) (.tupleCons (.mirror .nat) (.tupleCons (.mirror .nat) (.tupleCons (.mirror .nat) (.tupleCons (.mirror .nat) (.tupleCons (.mirror .nat) (.tupleCons (.mirror .nat) (.tupleCons (.mirror .nat) .tupleNil)))))))))))))))) (.vec 16)).Reservable := by decide
example : (RDesc.stack (.slice (.slice (.slice (.slice (.slice (.mirror .nat) (.vec 1)) (.vec 16)) (.vec 16)) (.vec 16)) (.vec 16)) (.vec 16)).aux = (inferInstance : RegionAux (FlatStack (SliceRegion (SliceRegion (SliceRegion (SliceRegion (SliceRegion (MirrorRegion Nat) (Capd (VecIdx Nat 1))) (Capd (VecIdx (Nat × Nat) 16))) (Capd (VecIdx (Nat × Nat) 16))) (Capd (VecIdx (Nat × Nat) 16))) (Capd (VecIdx (Nat × Nat) 16))) (Capd (VecIdx (Nat × Nat) 16)))) := rfl
example : (RDesc.stack (.slice (.slice (.slice (.slice (.slice (.mirror .nat) (.vec 1)) (.vec 16)) (.vec 16)) (.vec 16)) (.vec 16)) (.vec 16)).heapInv = (inferInstance : HeapInv (FlatStack (SliceRegion (SliceRegion (SliceRegion (SliceRegion (SliceRegion (MirrorRegion Nat) (Capd (VecIdx Nat 1))) (Capd (VecIdx (Nat × Nat) 16))) (Capd (VecIdx (Nat × Nat) 16))) (Capd (VecIdx (Nat × Nat) 16))) (Capd (VecIdx (Nat × Nat) 16))) (Capd (VecIdx (Nat × Nat) 16)))) := rfl
example : (RDesc.stack (.slice (.slice (.slice (.slice (.slice (.mirror .nat) (.vec 1)) (.vec 16)) (.vec 16)) (.vec 16)) (.vec 16)) (.vec 16)).stored = (inferInstance : Stored (FlatStack (SliceRegion (SliceRegion (SliceRegion (SliceRegion (SliceRegion (MirrorRegion Nat) (Capd (VecIdx Nat 1))) (Capd (VecIdx (Nat × Nat) 16))) (Capd (VecIdx (Nat × Nat) 16))) (Capd (VecIdx (Nat × Nat) 16))) (Capd (VecIdx (Nat × Nat) 16))) (Capd (VecIdx (Nat × Nat) 16)))) := rfl
example : (RDesc.stack (.slice (.slice (.slice (.slice (.slice (.mirror .nat) (.vec 1)) (.vec 16)) (.vec 16)) (.vec 16)) (.vec 16)) (.vec 16)).Uncoded := by decide
example : (RDesc.stack (.slice (.slice (.slice (.slice (.slice (.mirror .nat) (.vec 1)) (.vec 16)) (.vec 16)) (.vec 16)) (.vec 16)) (.vec 16)).ser (by decide) = (inferInstance : Ser (FlatStack (SliceRegion (SliceRegion (SliceRegion (SliceRegion (SliceRegion (MirrorRegion Nat) (Capd (VecIdx Nat 1))) (Capd (VecIdx (Nat × Nat) 16))) (Capd (VecIdx (Nat × Nat) 16))) (Capd (VecIdx (Nat × Nat) 16))) (Capd (VecIdx (Nat × Nat) 16))) (Capd (VecIdx (Nat × Nat) 16)))) := rfl
example : (RDesc.stack (.slice (.slice (.slice (.slice (.slice (.mirror .nat) (.vec 1)) (.vec 16)) (.vec 16)) (.vec 16)) (.vec 16)) (.vec 16)).sized (by decide) = (inferInstance : Sized (FlatStack (SliceRegion (SliceRegion (SliceRegion (SliceRegion (SliceRegion (MirrorRegion Nat) (Capd (VecIdx Nat 1))) (Capd (VecIdx (Nat × Nat) 16))) (Capd (VecIdx (Nat × Nat) 16))) (Capd (VecIdx (Nat × Nat) 16))) (Capd (VecIdx (Nat × Nat) 16))) (Capd (VecIdx (Nat × Nat) 16)))) := rfl
example : ¬ (RDesc.stack (.slice (.slice (.slice (.slice (.slice (.mirror .nat) (.vec 1)) (.vec 16)) (.vec 16)) (.vec 16)) (.vec 16)) (.vec 16)).Reservable := by decide
example : (RDesc.stack (.slice (.vec .nat) .opt) (.vec 16)).aux = (inferInstance : RegionAux (FlatStack (SliceRegion (VecRegion Nat) (Capd IndexOptimized)) (Capd (VecIdx (Nat × Nat) 16)))) := rfl
example : (RDesc.stack (.slice (.vec .nat) .opt) (.vec 16)).heapInv = (inferInstance : HeapInv (FlatStack (SliceRegion (VecRegion Nat) (Capd IndexOptimized)) (Capd (VecIdx (Nat × Nat) 16)))) := rfl
example : (RDesc.stack (.slice (.vec .nat) .opt) (.vec 16)).stored = (inferInstance : Stored (FlatStack (SliceRegion (VecRegion Nat) (Capd IndexOptimized)) (Capd (VecIdx (Nat × Nat) 16)))) := rfl
example : (RDesc.stack (.slice (.vec .nat) .opt) (.vec 16)).Uncoded := by decide
example : (RDesc.stack (.slice (.vec .nat) .opt) (.vec 16)).ser (by decide) = (inferInstance : Ser (FlatStack (SliceRegion (VecRegion Nat) (Capd IndexOptimized)) (Capd (VecIdx (Nat × Nat) 16)))) := rfl
example : ¬ (RDesc.stack (.slice (.vec .nat) .opt) (.vec 16)).VecSized := by decide
example : ¬ (RDesc.stack (.slice (.vec .nat) .opt) (.vec 16)).Reservable := by decide
example : (RDesc.stack (.slice .huffmanU8 (.vec 16)) (.vec 16)).aux = (inferInstance : RegionAux (FlatStack (SliceRegion HuffU8 (Capd (VecIdx (Nat × Nat) 16))) (Capd (VecIdx (Nat × Nat) 16)))) := rfl
example : (RDesc.stack (.slice .huffmanU8 (.vec 16)) (.vec 16)).heapInv = (inferInstance : HeapInv (FlatStack (SliceRegion HuffU8 (Capd (VecIdx (Nat × Nat) 16))) (Capd (VecIdx (Nat × Nat) 16)))) := rfl
example : (RDesc.stack (.slice .huffmanU8 (.vec 16)) (.vec 16)).stored = (inferInstance : Stored (FlatStack (SliceRegion HuffU8 (Capd (VecIdx (Nat × Nat) 16))) (Capd (VecIdx (Nat × Nat) 16)))) := rfl
example : ¬ (RDesc.stack (.slice .huffmanU8 (.vec 16)) (.vec 16)).Uncoded := by decide
example : ¬ (RDesc.stack (.slice .huffmanU8 (.vec 16)) (.vec 16)).Serde := by decide
example : ¬ (RDesc.stack (.slice .huffmanU8 (.vec 16)) (.vec 16)).VecSized := by decide
example : ¬ (RDesc.stack (.slice .huffmanU8 (.vec 16)) (.vec 16)).Reservable := by decide
example : (RDesc.stack (.columns (.mirror .nat) .opt) .list).aux = (inferInstance : RegionAux (FlatStack (ColumnsRegion (MirrorRegion Nat) Nat (Capd IndexOptimized)) (Capd IndexList))) := rfl
example : (RDesc.stack (.columns (.mirror .nat) .opt) .list).heapInv = (inferInstance : HeapInv (FlatStack (ColumnsRegion (MirrorRegion Nat) Nat (Capd IndexOptimized)) (Capd IndexList))) := rfl
example : (RDesc.stack (.columns (.mirror .nat) .opt) .list).stored = (inferInstance : Stored (FlatStack (ColumnsRegion (MirrorRegion Nat) Nat (Capd IndexOptimized)) (Capd IndexList))) := rfl
example : (RDesc.stack (.columns (.mirror .nat) .opt) .list).Uncoded := by decide
example : (RDesc.stack (.columns (.mirror .nat) .opt) .list).ser (by decide) = (inferInstance : Ser (FlatStack (ColumnsRegion (MirrorRegion Nat) Nat (Capd IndexOptimized)) (Capd IndexList))) := rfl
example : ¬ (RDesc.stack (.columns (.mirror .nat) .opt) .list).VecSized := by decide
example : ¬ (RDesc.stack (.columns (.mirror .nat) .opt) .list).Reservable := by decide
example : (RDesc.stack (.columns (.mirror .nat) .list) (.vec 8)).aux = (inferInstance : RegionAux (FlatStack (ColumnsRegion (MirrorRegion Nat) Nat (Capd IndexList)) (Capd (VecIdx Nat 8)))) := rfl
example : (RDesc.stack (.columns (.mirror .nat) .list) (.vec 8)).heapInv = (inferInstance : HeapInv (FlatStack (ColumnsRegion (MirrorRegion Nat) Nat (Capd IndexList)) (Capd (VecIdx Nat 8)))) := rfl
example : (RDesc.stack (.columns (.mirror .nat) .list) (.vec 8)).stored = (inferInstance : Stored (FlatStack (ColumnsRegion (MirrorRegion Nat) Nat (Capd IndexList)) (Capd (VecIdx Nat 8)))) := rfl
example : (RDesc.stack (.columns (.mirror .nat) .list) (.vec 8)).Uncoded := by decide
example : (RDesc.stack (.columns (.mirror .nat) .list) (.vec 8)).ser (by decide) = (inferInstance : Ser (FlatStack (ColumnsRegion (MirrorRegion Nat) Nat (Capd IndexList)) (Capd (VecIdx Nat 8)))) := rfl
example : ¬ (RDesc.stack (.columns (.mirror .nat) .list) (.vec 8)).VecSized := by decide
example : ¬ (RDesc.stack (.columns (.mirror .nat) .list) (.vec 8)).Reservable := by decide
example : (RDesc.stack (.columns (.string (.owned .u8)) (.vec 8)) .opt).aux = (inferInstance : RegionAux (FlatStack (ColumnsRegion (StringRegion (OwnedRegion UInt8)) (Nat × Nat) (Capd (VecIdx Nat 8))) (Capd IndexOptimized))) := rfl
example : (RDesc.stack (.columns (.string (.owned .u8)) (.vec 8)) .opt).heapInv = (inferInstance : HeapInv (FlatStack (ColumnsRegion (StringRegion (OwnedRegion UInt8)) (Nat × Nat) (Capd (VecIdx Nat 8))) (Capd IndexOptimized))) := rfl
example : (RDesc.stack (.columns (.string (.owned .u8)) (.vec 8)) .opt).stored = (inferInstance : Stored (FlatStack (ColumnsRegion (StringRegion (OwnedRegion UInt8)) (Nat × Nat) (Capd (VecIdx Nat 8))) (Capd IndexOptimized))) := rfl
example : (RDesc.stack (.columns (.string (.owned .u8)) (.vec 8)) .opt).Uncoded := by decide
example : (RDesc.stack (.columns (.string (.owned .u8)) (.vec 8)) .opt).ser (by decide) = (inferInstance : Ser (FlatStack (ColumnsRegion (StringRegion (OwnedRegion UInt8)) (Nat × Nat) (Capd (VecIdx Nat 8))) (Capd IndexOptimized))) := rfl
example : ¬ (RDesc.stack (.columns (.string (.owned .u8)) (.vec 8)) .opt).VecSized := by decide
example : ¬ (RDesc.stack (.columns (.string (.owned .u8)) (.vec 8)) .opt).Reservable := by decide
example : (RDesc.stack (.columns (.owned .u8) .opt) .list).aux = (inferInstance : RegionAux (FlatStack (ColumnsRegion (OwnedRegion UInt8) (Nat × Nat) (Capd IndexOptimized)) (Capd IndexList))) := rfl
example : (RDesc.stack (.columns (.owned .u8) .opt) .list).heapInv = (inferInstance : HeapInv (FlatStack (ColumnsRegion (OwnedRegion UInt8) (Nat × Nat) (Capd IndexOptimized)) (Capd IndexList))) := rfl
example : (RDesc.stack (.columns (.owned .u8) .opt) .list).stored = (inferInstance : Stored (FlatStack (ColumnsRegion (OwnedRegion UInt8) (Nat × Nat) (Capd IndexOptimized)) (Capd IndexList))) := rfl
example : (RDesc.stack (.columns (.owned .u8) .opt) .list).Uncoded := by decide
example : (RDesc.stack (.columns (.owned .u8) .opt) .list).ser (by decide) = (inferInstance : Ser (FlatStack (ColumnsRegion (OwnedRegion UInt8) (Nat × Nat) (Capd IndexOptimized)) (Capd IndexList))) := rfl
example : ¬ (RDesc.stack (.columns (.owned .u8) .opt) .list).VecSized := by decide
example : ¬ (RDesc.stack (.columns (.owned .u8) .opt) .list).Reservable := by decide
example : (RDesc.stack (.columns (.collapse (.consec (.string (.owned .u8)) .opt)) .opt) (.vec 8)).aux = (inferInstance : RegionAux (FlatStack (ColumnsRegion (CollapseSequence (ConsecPairs (StringRegion (OwnedRegion UInt8)) (Capd IndexOptimized)) Nat) Nat (Capd IndexOptimized)) (Capd (VecIdx Nat 8)))) := rfl
example : (RDesc.stack (.columns (.collapse (.consec (.string (.owned .u8)) .opt)) .opt) (.vec 8)).heapInv = (inferInstance : HeapInv (FlatStack (ColumnsRegion (CollapseSequence (ConsecPairs (StringRegion (OwnedRegion UInt8)) (Capd IndexOptimized)) Nat) Nat (Capd IndexOptimized)) (Capd (VecIdx Nat 8)))) := rfl
example : (RDesc.stack (.columns (.collapse (.consec (.string (.owned .u8)) .opt)) .opt) (.vec 8)).stored = (inferInstance : Stored (FlatStack (ColumnsRegion (CollapseSequence (ConsecPairs (StringRegion (OwnedRegion UInt8)) (Capd IndexOptimized)) Nat) Nat (Capd IndexOptimized)) (Capd (VecIdx Nat 8)))) := rfl
example : (RDesc.stack (.columns (.collapse (.consec (.string (.owned .u8)) .opt)) .opt) (.vec 8)).Uncoded := by decide
example : (RDesc.stack (.columns (.collapse (.consec (.string (.owned .u8)) .opt)) .opt) (.vec 8)).ser (by decide) = (inferInstance : Ser (FlatStack (ColumnsRegion (CollapseSequence (ConsecPairs (StringRegion (OwnedRegion UInt8)) (Capd IndexOptimized)) Nat) Nat (Capd IndexOptimized)) (Capd (VecIdx Nat 8)))) := rfl
example : ¬ (RDesc.stack (.columns (.collapse (.consec (.string (.owned .u8)) .opt)) .opt) (.vec 8)).VecSized := by decide
example : ¬ (RDesc.stack (.columns (.collapse (.consec (.string (.owned .u8)) .opt)) .opt) (.vec 8)).Reservable := by decide
example : (RDesc.stack (.consec (.slice (.collapse (.string (.owned .u8))) (.vec 16)) (.vec 8)) .opt).aux = (inferInstance : RegionAux (FlatStack (ConsecPairs (SliceRegion (CollapseSequence (StringRegion (OwnedRegion UInt8)) (Nat × Nat)) (Capd (VecIdx (Nat × Nat) 16))) (Capd (VecIdx Nat 8))) (Capd IndexOptimized))) := rfl
example : (RDesc.stack (.consec (.slice (.collapse (.string (.owned .u8))) (.vec 16)) (.vec 8)) .opt).heapInv = (inferInstance : HeapInv (FlatStack (ConsecPairs (SliceRegion (CollapseSequence (StringRegion (OwnedRegion UInt8)) (Nat × Nat)) (Capd (VecIdx (Nat × Nat) 16))) (Capd (VecIdx Nat 8))) (Capd IndexOptimized))) := rfl
example : (RDesc.stack (.consec (.slice (.collapse (.string (.owned .u8))) (.vec 16)) (.vec 8)) .opt).stored = (inferInstance : Stored (FlatStack (ConsecPairs (SliceRegion (CollapseSequence (StringRegion (OwnedRegion UInt8)) (Nat × Nat)) (Capd (VecIdx (Nat × Nat) 16))) (Capd (VecIdx Nat 8))) (Capd IndexOptimized))) := rfl
example : (RDesc.stack (.consec (.slice (.collapse (.string (.owned .u8))) (.vec 16)) (.vec 8)) .opt).Uncoded := by decide
example : (RDesc.stack (.consec (.slice (.collapse (.string (.owned .u8))) (.vec 16)) (.vec 8)) .opt).ser (by decide) = (inferInstance : Ser (FlatStack (ConsecPairs (SliceRegion (CollapseSequence (StringRegion (OwnedRegion UInt8)) (Nat × Nat)) (Capd (VecIdx (Nat × Nat) 16))) (Capd (VecIdx Nat 8))) (Capd IndexOptimized))) := rfl
example : ¬ (RDesc.stack (.consec (.slice (.collapse (.string (.owned .u8))) (.vec 16)) (.vec 8)) .opt).VecSized := by decide
example : ¬ (RDesc.stack (.consec (.slice (.collapse (.string (.owned .u8))) (.vec 16)) (.vec 8)) .opt).Reservable := by decide
example : (RDesc.stack (.string (.consec (.owned .u8) .list)) .list).aux = (inferInstance : RegionAux (FlatStack (StringRegion (ConsecPairs (OwnedRegion UInt8) (Capd IndexList))) (Capd IndexList))) := rfl
example : (RDesc.stack (.string (.consec (.owned .u8) .list)) .list).heapInv = (inferInstance : HeapInv (FlatStack (StringRegion (ConsecPairs (OwnedRegion UInt8) (Capd IndexList))) (Capd IndexList))) := rfl
example : (RDesc.stack (.string (.consec (.owned .u8) .list)) .list).stored = (inferInstance : Stored (FlatStack (StringRegion (ConsecPairs (OwnedRegion UInt8) (Capd IndexList))) (Capd IndexList))) := rfl
example : (RDesc.stack (.string (.consec (.owned .u8) .list)) .list).Uncoded := by decide
example : (RDesc.stack (.string (.consec (.owned .u8) .list)) .list).ser (by decide) = (inferInstance : Ser (FlatStack (StringRegion (ConsecPairs (OwnedRegion UInt8) (Capd IndexList))) (Capd IndexList))) := rfl
example : ¬ (RDesc.stack (.string (.consec (.owned .u8) .list)) .list).VecSized := by decide
example : ¬ (RDesc.stack (.string (.consec (.owned .u8) .list)) .list).Reservable := by decide
example : (RDesc.stack (.columns (.columns (.mirror .nat) (.vec 8)) (.vec 8)) .opt).aux = (inferInstance : RegionAux (FlatStack (ColumnsRegion (ColumnsRegion (MirrorRegion Nat) Nat (Capd (VecIdx Nat 8))) Nat (Capd (VecIdx Nat 8))) (Capd IndexOptimized))) := rfl
example : (RDesc.stack (.columns (.columns (.mirror .nat) (.vec 8)) (.vec 8)) .opt).heapInv = (inferInstance : HeapInv (FlatStack (ColumnsRegion (ColumnsRegion (MirrorRegion Nat) Nat (Capd (VecIdx Nat 8))) Nat (Capd (VecIdx Nat 8))) (Capd IndexOptimized))) := rfl
example : (RDesc.stack (.columns (.columns (.mirror .nat) (.vec 8)) (.vec 8)) .opt).stored = (inferInstance : Stored (FlatStack (ColumnsRegion (ColumnsRegion (MirrorRegion Nat) Nat (Capd (VecIdx Nat 8))) Nat (Capd (VecIdx Nat 8))) (Capd IndexOptimized))) := rfl
example : (RDesc.stack (.columns (.columns (.mirror .nat) (.vec 8)) (.vec 8)) .opt).Uncoded := by decide
example : (RDesc.stack (.columns (.columns (.mirror .nat) (.vec 8)) (.vec 8)) .opt).ser (by decide) = (inferInstance : Ser (FlatStack (ColumnsRegion (ColumnsRegion (MirrorRegion Nat) Nat (Capd (VecIdx Nat 8))) Nat (Capd (VecIdx Nat 8))) (Capd IndexOptimized))) := rfl
example : ¬ (RDesc.stack (.columns (.columns (.mirror .nat) (.vec 8)) (.vec 8)) .opt).VecSized := by decide
example : ¬ (RDesc.stack (.columns (.columns (.mirror .nat) (.vec 8)) (.vec 8)) .opt).Reservable := by decide
example : (RDesc.stack (.columns .huffmanU8 (.vec 8)) .list).aux = (inferInstance : RegionAux (FlatStack (ColumnsRegion HuffU8 (Nat × Nat) (Capd (VecIdx Nat 8))) (Capd IndexList))) := rfl
example : (RDesc.stack (.columns .huffmanU8 (.vec 8)) .list).heapInv = (inferInstance : HeapInv (FlatStack (ColumnsRegion HuffU8 (Nat × Nat) (Capd (VecIdx Nat 8))) (Capd IndexList))) := rfl
example : (RDesc.stack (.columns .huffmanU8 (.vec 8)) .list).stored = (inferInstance : Stored (FlatStack (ColumnsRegion HuffU8 (Nat × Nat) (Capd (VecIdx Nat 8))) (Capd IndexList))) := rfl
example : ¬ (RDesc.stack (.columns .huffmanU8 (.vec 8)) .list).Uncoded := by decide
example : ¬ (RDesc.stack (.columns .huffmanU8 (.vec 8)) .list).Serde := by decide
example : ¬ (RDesc.stack (.columns .huffmanU8 (.vec 8)) .list).VecSized := by decide
example : ¬ (RDesc.stack (.columns .huffmanU8 (.vec 8)) .list).Reservable := by decide
end FC.CoveredUniverseOps
