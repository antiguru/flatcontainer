-- @generated by tools/gen_covered_universe_ops.py from Generated/CoveredUniverse.lean, CoveredOps.lean, CoveredSer.lean, CoveredHeap.lean -- do not edit
import FlatModel.Props.UniverseSer
import FlatModel.Props.UniverseHeap
import FlatModel.Generated.CoveredOps
import FlatModel.Generated.CoveredSer
import FlatModel.Generated.CoveredHeap
/-! Part 4 of 4 of what Generated/CoveredUniverseOps.lean describes. -/
set_option synthInstance.maxHeartbeats 400000
set_option synthInstance.maxSize 2048
namespace FC.CoveredUniverseOps
open FC FC.Universe
attribute [local instance] SizeEnv.std
attribute [local irreducible] instRegionMirrorRegion instRegionOwnedRegionListProdNat instRegionVecRegionNat instRegionStringRegionListUInt8 instRegionOptionRegionOption instRegionResultRegionExcept instRegionTupleNilUnit instRegionTupleConsProd instRegionCollapseSequenceOfHasEqv instRegionSliceRegionListProdNat instRegionConsecPairsNatOfDenseRegionOfIdxCont instRegionColumnsRegionListNat instRegionRegionListUInt8ProdNat instRegionContainerListNatProd instRegionHuffU8ListUInt8ProdNat instRegionFlatStackNat
example : (RDesc.owned .u8).aux = (inferInstance : RegionAux (OwnedRegion UInt8)) := rfl
example : (RDesc.owned .u8).heapInv = (inferInstance : HeapInv (OwnedRegion UInt8)) := rfl
example : (RDesc.owned .u8).stored = (inferInstance : Stored (OwnedRegion UInt8)) := rfl
example : (RDesc.owned .u8).Uncoded := by decide
example : (RDesc.owned .u8).ser (by decide) = (inferInstance : Ser (OwnedRegion UInt8)) := rfl
example : (RDesc.owned .u8).sized (by decide) = (inferInstance : Sized (OwnedRegion UInt8)) := rfl
example : (RDesc.owned .u8).Reservable := by decide
example : (RDesc.vec (.list .u8)).aux = (inferInstance : RegionAux (VecRegion (List UInt8))) := rfl
example : (RDesc.vec (.list .u8)).heapInv = (inferInstance : HeapInv (VecRegion (List UInt8))) := rfl
example : (RDesc.vec (.list .u8)).stored = (inferInstance : Stored (VecRegion (List UInt8))) := rfl
example : (RDesc.vec (.list .u8)).Uncoded := by decide
example : (RDesc.vec (.list .u8)).ser (by decide) = (inferInstance : Ser (VecRegion (List UInt8))) := rfl
example : (RDesc.vec (.list .u8)).sized (by decide) = (inferInstance : Sized (VecRegion (List UInt8))) := rfl
example : (RDesc.vec (.list .u8)).Reservable := by decide
example : (RDesc.codec).aux = (inferInstance : RegionAux (Codec.Region)) := rfl
example : (RDesc.codec).heapInv = (inferInstance : HeapInv (Codec.Region)) := rfl
example : (RDesc.codec).stored = (inferInstance : Stored (Codec.Region)) := rfl
example : ¬ (RDesc.codec).Uncoded := by decide
example : ¬ (RDesc.codec).Serde := by decide
example : ¬ (RDesc.codec).VecSized := by decide
example : ¬ (RDesc.codec).Reservable := by decide
example : (RDesc.consec (.owned .u8) (.vec 8)).aux = (inferInstance : RegionAux (ConsecPairs (OwnedRegion UInt8) (Capd (VecIdx Nat 8)))) := rfl
example : (RDesc.consec (.owned .u8) (.vec 8)).heapInv = (inferInstance : HeapInv (ConsecPairs (OwnedRegion UInt8) (Capd (VecIdx Nat 8)))) := rfl
example : (RDesc.consec (.owned .u8) (.vec 8)).stored = (inferInstance : Stored (ConsecPairs (OwnedRegion UInt8) (Capd (VecIdx Nat 8)))) := rfl
example : (RDesc.consec (.owned .u8) (.vec 8)).Uncoded := by decide
example : (RDesc.consec (.owned .u8) (.vec 8)).ser (by decide) = (inferInstance : Ser (ConsecPairs (OwnedRegion UInt8) (Capd (VecIdx Nat 8)))) := rfl
example : ¬ (RDesc.consec (.owned .u8) (.vec 8)).VecSized := by decide
example : ¬ (RDesc.consec (.owned .u8) (.vec 8)).Reservable := by decide
example : (RDesc.consec (.string (.owned .u8)) .opt).aux = (inferInstance : RegionAux (ConsecPairs (StringRegion (OwnedRegion UInt8)) (Capd IndexOptimized))) := rfl
example : (RDesc.consec (.string (.owned .u8)) .opt).heapInv = (inferInstance : HeapInv (ConsecPairs (StringRegion (OwnedRegion UInt8)) (Capd IndexOptimized))) := rfl
example : (RDesc.consec (.string (.owned .u8)) .opt).stored = (inferInstance : Stored (ConsecPairs (StringRegion (OwnedRegion UInt8)) (Capd IndexOptimized))) := rfl
example : (RDesc.consec (.string (.owned .u8)) .opt).Uncoded := by decide
example : (RDesc.consec (.string (.owned .u8)) .opt).ser (by decide) = (inferInstance : Ser (ConsecPairs (StringRegion (OwnedRegion UInt8)) (Capd IndexOptimized))) := rfl
example : ¬ (RDesc.consec (.string (.owned .u8)) .opt).VecSized := by decide
example : ¬ (RDesc.consec (.string (.owned .u8)) .opt).Reservable := by decide
example : (RDesc.string .codec).aux = (inferInstance : RegionAux (StringRegion Codec.Region)) := rfl
example : (RDesc.string .codec).heapInv = (inferInstance : HeapInv (StringRegion Codec.Region)) := rfl
example : (RDesc.string .codec).stored = (inferInstance : Stored (StringRegion Codec.Region)) := rfl
example : ¬ (RDesc.string .codec).Uncoded := by decide
example : ¬ (RDesc.string .codec).Serde := by decide
example : ¬ (RDesc.string .codec).VecSized := by decide
example : ¬ (RDesc.string .codec).Reservable := by decide
example : (RDesc.option (.string (.owned .u8))).aux = (inferInstance : RegionAux (OptionRegion (StringRegion (OwnedRegion UInt8)))) := rfl
example : (RDesc.option (.string (.owned .u8))).heapInv = (inferInstance : HeapInv (OptionRegion (StringRegion (OwnedRegion UInt8)))) := rfl
example : (RDesc.option (.string (.owned .u8))).stored = (inferInstance : Stored (OptionRegion (StringRegion (OwnedRegion UInt8)))) := rfl
example : (RDesc.option (.string (.owned .u8))).Uncoded := by decide
example : (RDesc.option (.string (.owned .u8))).ser (by decide) = (inferInstance : Ser (OptionRegion (StringRegion (OwnedRegion UInt8)))) := rfl
example : (RDesc.option (.string (.owned .u8))).sized (by decide) = (inferInstance : Sized (OptionRegion (StringRegion (OwnedRegion UInt8)))) := rfl
example : (RDesc.option (.string (.owned .u8))).Reservable := by decide
example : (RDesc.result (.consec (.string (.owned .u8)) .opt) (.consec (.owned .u8) (.vec 8))).aux = (inferInstance : RegionAux (ResultRegion (ConsecPairs (StringRegion (OwnedRegion UInt8)) (Capd IndexOptimized)) (ConsecPairs (OwnedRegion UInt8) (Capd (VecIdx Nat 8))))) := rfl
example : (RDesc.result (.consec (.string (.owned .u8)) .opt) (.consec (.owned .u8) (.vec 8))).heapInv = (inferInstance : HeapInv (ResultRegion (ConsecPairs (StringRegion (OwnedRegion UInt8)) (Capd IndexOptimized)) (ConsecPairs (OwnedRegion UInt8) (Capd (VecIdx Nat 8))))) := rfl
example : (RDesc.result (.consec (.string (.owned .u8)) .opt) (.consec (.owned .u8) (.vec 8))).stored = (inferInstance : Stored (ResultRegion (ConsecPairs (StringRegion (OwnedRegion UInt8)) (Capd IndexOptimized)) (ConsecPairs (OwnedRegion UInt8) (Capd (VecIdx Nat 8))))) := rfl
example : (RDesc.result (.consec (.string (.owned .u8)) .opt) (.consec (.owned .u8) (.vec 8))).Uncoded := by decide
example : (RDesc.result (.consec (.string (.owned .u8)) .opt) (.consec (.owned .u8) (.vec 8))).ser (by decide) = (inferInstance : Ser (ResultRegion (ConsecPairs (StringRegion (OwnedRegion UInt8)) (Capd IndexOptimized)) (ConsecPairs (OwnedRegion UInt8) (Capd (VecIdx Nat 8))))) := rfl
example : ¬ (RDesc.result (.consec (.string (.owned .u8)) .opt) (.consec (.owned .u8) (.vec 8))).VecSized := by decide
example : ¬ (RDesc.result (.consec (.string (.owned .u8)) .opt) (.consec (.owned .u8) (.vec 8))).Reservable := by decide
example : (RDesc.tupleCons .huffmanU8 (.tupleCons .codec .tupleNil)).aux = (inferInstance : RegionAux (TupleCons HuffU8 (TupleCons Codec.Region TupleNil))) := rfl
example : (RDesc.tupleCons .huffmanU8 (.tupleCons .codec .tupleNil)).heapInv = (inferInstance : HeapInv (TupleCons HuffU8 (TupleCons Codec.Region TupleNil))) := rfl
example : (RDesc.tupleCons .huffmanU8 (.tupleCons .codec .tupleNil)).stored = (inferInstance : Stored (TupleCons HuffU8 (TupleCons Codec.Region TupleNil))) := rfl
example : ¬ (RDesc.tupleCons .huffmanU8 (.tupleCons .codec .tupleNil)).Uncoded := by decide
example : ¬ (RDesc.tupleCons .huffmanU8 (.tupleCons .codec .tupleNil)).Serde := by decide
example : ¬ (RDesc.tupleCons .huffmanU8 (.tupleCons .codec .tupleNil)).VecSized := by decide
example : ¬ (RDesc.tupleCons .huffmanU8 (.tupleCons .codec .tupleNil)).Reservable := by decide
example : (RDesc.slice (.mirror .nat) (.vec 1)).aux = (inferInstance : RegionAux (SliceRegion (MirrorRegion Nat) (Capd (VecIdx Nat 1)))) := rfl
example : (RDesc.slice (.mirror .nat) (.vec 1)).heapInv = (inferInstance : HeapInv (SliceRegion (MirrorRegion Nat) (Capd (VecIdx Nat 1)))) := rfl
example : (RDesc.slice (.mirror .nat) (.vec 1)).stored = (inferInstance : Stored (SliceRegion (MirrorRegion Nat) (Capd (VecIdx Nat 1)))) := rfl
example : (RDesc.slice (.mirror .nat) (.vec 1)).Uncoded := by decide
example : (RDesc.slice (.mirror .nat) (.vec 1)).ser (by decide) = (inferInstance : Ser (SliceRegion (MirrorRegion Nat) (Capd (VecIdx Nat 1)))) := rfl
example : (RDesc.slice (.mirror .nat) (.vec 1)).sized (by decide) = (inferInstance : Sized (SliceRegion (MirrorRegion Nat) (Capd (VecIdx Nat 1)))) := rfl
example : (RDesc.slice (.mirror .nat) (.vec 1)).Reservable := by decide
example : (RDesc.slice (.consec (.string (.owned .u8)) .opt) (.vec 8)).aux = (inferInstance : RegionAux (SliceRegion (ConsecPairs (StringRegion (OwnedRegion UInt8)) (Capd IndexOptimized)) (Capd (VecIdx Nat 8)))) := rfl
example : (RDesc.slice (.consec (.string (.owned .u8)) .opt) (.vec 8)).heapInv = (inferInstance : HeapInv (SliceRegion (ConsecPairs (StringRegion (OwnedRegion UInt8)) (Capd IndexOptimized)) (Capd (VecIdx Nat 8)))) := rfl
example : (RDesc.slice (.consec (.string (.owned .u8)) .opt) (.vec 8)).stored = (inferInstance : Stored (SliceRegion (ConsecPairs (StringRegion (OwnedRegion UInt8)) (Capd IndexOptimized)) (Capd (VecIdx Nat 8)))) := rfl
example : (RDesc.slice (.consec (.string (.owned .u8)) .opt) (.vec 8)).Uncoded := by decide
example : (RDesc.slice (.consec (.string (.owned .u8)) .opt) (.vec 8)).ser (by decide) = (inferInstance : Ser (SliceRegion (ConsecPairs (StringRegion (OwnedRegion UInt8)) (Capd IndexOptimized)) (Capd (VecIdx Nat 8)))) := rfl
example : ¬ (RDesc.slice (.consec (.string (.owned .u8)) .opt) (.vec 8)).VecSized := by decide
example : ¬ (RDesc.slice (.consec (.string (.owned .u8)) .opt) (.vec 8)).Reservable := by decide
example : (RDesc.slice (.mirror .nat) .opt).aux = (inferInstance : RegionAux (SliceRegion (MirrorRegion Nat) (Capd IndexOptimized))) := rfl
example : (RDesc.slice (.mirror .nat) .opt).heapInv = (inferInstance : HeapInv (SliceRegion (MirrorRegion Nat) (Capd IndexOptimized))) := rfl
example : (RDesc.slice (.mirror .nat) .opt).stored = (inferInstance : Stored (SliceRegion (MirrorRegion Nat) (Capd IndexOptimized))) := rfl
example : (RDesc.slice (.mirror .nat) .opt).Uncoded := by decide
example : (RDesc.slice (.mirror .nat) .opt).ser (by decide) = (inferInstance : Ser (SliceRegion (MirrorRegion Nat) (Capd IndexOptimized))) := rfl
example : ¬ (RDesc.slice (.mirror .nat) .opt).VecSized := by decide
example : ¬ (RDesc.slice (.mirror .nat) .opt).Reservable := by decide
example : (RDesc.slice (.tupleCons (.string (.owned .u8)) .tupleNil) (.vec 16)).aux = (inferInstance : RegionAux (SliceRegion (TupleCons (StringRegion (OwnedRegion UInt8)) TupleNil) (Capd (VecIdx ((Nat × Nat) × Unit) 16)))) := rfl
example : (RDesc.slice (.tupleCons (.string (.owned .u8)) .tupleNil) (.vec 16)).heapInv = (inferInstance : HeapInv (SliceRegion (TupleCons (StringRegion (OwnedRegion UInt8)) TupleNil) (Capd (VecIdx ((Nat × Nat) × Unit) 16)))) := rfl
example : (RDesc.slice (.tupleCons (.string (.owned .u8)) .tupleNil) (.vec 16)).stored = (inferInstance : Stored (SliceRegion (TupleCons (StringRegion (OwnedRegion UInt8)) TupleNil) (Capd (VecIdx ((Nat × Nat) × Unit) 16)))) := rfl
example : (RDesc.slice (.tupleCons (.string (.owned .u8)) .tupleNil) (.vec 16)).Uncoded := by decide
example : (RDesc.slice (.tupleCons (.string (.owned .u8)) .tupleNil) (.vec 16)).ser (by decide) = (inferInstance : Ser (SliceRegion (TupleCons (StringRegion (OwnedRegion UInt8)) TupleNil) (Capd (VecIdx ((Nat × Nat) × Unit) 16)))) := rfl
example : (RDesc.slice (.tupleCons (.string (.owned .u8)) .tupleNil) (.vec 16)).sized (by decide) = (inferInstance : Sized (SliceRegion (TupleCons (StringRegion (OwnedRegion UInt8)) TupleNil) (Capd (VecIdx ((Nat × Nat) × Unit) 16)))) := rfl
example : (RDesc.slice (.tupleCons (.string (.owned .u8)) .tupleNil) (.vec 16)).Reservable := by decide
example : (RDesc.columns (.string (.owned .u8)) (.vec 8)).aux = (inferInstance : RegionAux (ColumnsRegion (StringRegion (OwnedRegion UInt8)) (Nat × Nat) (Capd (VecIdx Nat 8)))) := rfl
example : (RDesc.columns (.string (.owned .u8)) (.vec 8)).heapInv = (inferInstance : HeapInv (ColumnsRegion (StringRegion (OwnedRegion UInt8)) (Nat × Nat) (Capd (VecIdx Nat 8)))) := rfl
example : (RDesc.columns (.string (.owned .u8)) (.vec 8)).stored = (inferInstance : Stored (ColumnsRegion (StringRegion (OwnedRegion UInt8)) (Nat × Nat) (Capd (VecIdx Nat 8)))) := rfl
example : (RDesc.columns (.string (.owned .u8)) (.vec 8)).Uncoded := by decide
example : (RDesc.columns (.string (.owned .u8)) (.vec 8)).ser (by decide) = (inferInstance : Ser (ColumnsRegion (StringRegion (OwnedRegion UInt8)) (Nat × Nat) (Capd (VecIdx Nat 8)))) := rfl
example : ¬ (RDesc.columns (.string (.owned .u8)) (.vec 8)).VecSized := by decide
example : ¬ (RDesc.columns (.string (.owned .u8)) (.vec 8)).Reservable := by decide
example : (RDesc.consec (.slice (.collapse (.string (.owned .u8))) (.vec 16)) (.vec 8)).aux = (inferInstance : RegionAux (ConsecPairs (SliceRegion (CollapseSequence (StringRegion (OwnedRegion UInt8)) (Nat × Nat)) (Capd (VecIdx (Nat × Nat) 16))) (Capd (VecIdx Nat 8)))) := rfl
example : (RDesc.consec (.slice (.collapse (.string (.owned .u8))) (.vec 16)) (.vec 8)).heapInv = (inferInstance : HeapInv (ConsecPairs (SliceRegion (CollapseSequence (StringRegion (OwnedRegion UInt8)) (Nat × Nat)) (Capd (VecIdx (Nat × Nat) 16))) (Capd (VecIdx Nat 8)))) := rfl
example : (RDesc.consec (.slice (.collapse (.string (.owned .u8))) (.vec 16)) (.vec 8)).stored = (inferInstance : Stored (ConsecPairs (SliceRegion (CollapseSequence (StringRegion (OwnedRegion UInt8)) (Nat × Nat)) (Capd (VecIdx (Nat × Nat) 16))) (Capd (VecIdx Nat 8)))) := rfl
example : (RDesc.consec (.slice (.collapse (.string (.owned .u8))) (.vec 16)) (.vec 8)).Uncoded := by decide
example : (RDesc.consec (.slice (.collapse (.string (.owned .u8))) (.vec 16)) (.vec 8)).ser (by decide) = (inferInstance : Ser (ConsecPairs (SliceRegion (CollapseSequence (StringRegion (OwnedRegion UInt8)) (Nat × Nat)) (Capd (VecIdx (Nat × Nat) 16))) (Capd (VecIdx Nat 8)))) := rfl
example : ¬ (RDesc.consec (.slice (.collapse (.string (.owned .u8))) (.vec 16)) (.vec 8)).VecSized := by decide
example : ¬ (RDesc.consec (.slice (.collapse (.string (.owned .u8))) (.vec 16)) (.vec 8)).Reservable := by decide
example : (RDesc.columns (.columns (.mirror .nat) (.vec 8)) (.vec 8)).aux = (inferInstance : RegionAux (ColumnsRegion (ColumnsRegion (MirrorRegion Nat) Nat (Capd (VecIdx Nat 8))) Nat (Capd (VecIdx Nat 8)))) := rfl
example : (RDesc.columns (.columns (.mirror .nat) (.vec 8)) (.vec 8)).heapInv = (inferInstance : HeapInv (ColumnsRegion (ColumnsRegion (MirrorRegion Nat) Nat (Capd (VecIdx Nat 8))) Nat (Capd (VecIdx Nat 8)))) := rfl
example : (RDesc.columns (.columns (.mirror .nat) (.vec 8)) (.vec 8)).stored = (inferInstance : Stored (ColumnsRegion (ColumnsRegion (MirrorRegion Nat) Nat (Capd (VecIdx Nat 8))) Nat (Capd (VecIdx Nat 8)))) := rfl
example : (RDesc.columns (.columns (.mirror .nat) (.vec 8)) (.vec 8)).Uncoded := by decide
example : (RDesc.columns (.columns (.mirror .nat) (.vec 8)) (.vec 8)).ser (by decide) = (inferInstance : Ser (ColumnsRegion (ColumnsRegion (MirrorRegion Nat) Nat (Capd (VecIdx Nat 8))) Nat (Capd (VecIdx Nat 8)))) := rfl
example : ¬ (RDesc.columns (.columns (.mirror .nat) (.vec 8)) (.vec 8)).VecSized := by decide
example : ¬ (RDesc.columns (.columns (.mirror .nat) (.vec 8)) (.vec 8)).Reservable := by decide
example : (RDesc.stack (.mirror .nat) (.vec 8)).aux = (inferInstance : RegionAux (FlatStack (MirrorRegion Nat) (Capd (VecIdx Nat 8)))) := rfl
example : (RDesc.stack (.mirror .nat) (.vec 8)).heapInv = (inferInstance : HeapInv (FlatStack (MirrorRegion Nat) (Capd (VecIdx Nat 8)))) := rfl
example : (RDesc.stack (.mirror .nat) (.vec 8)).stored = (inferInstance : Stored (FlatStack (MirrorRegion Nat) (Capd (VecIdx Nat 8)))) := rfl
example : (RDesc.stack (.mirror .nat) (.vec 8)).Uncoded := by decide
example : (RDesc.stack (.mirror .nat) (.vec 8)).ser (by decide) = (inferInstance : Ser (FlatStack (MirrorRegion Nat) (Capd (VecIdx Nat 8)))) := rfl
example : (RDesc.stack (.mirror .nat) (.vec 8)).sized (by decide) = (inferInstance : Sized (FlatStack (MirrorRegion Nat) (Capd (VecIdx Nat 8)))) := rfl
example : ¬ (RDesc.stack (.mirror .nat) (.vec 8)).Reservable := by decide
example : (RDesc.stack (.mirror .unit) (.vec 0)).aux = (inferInstance : RegionAux (FlatStack (MirrorRegion Unit) (Capd (VecIdx Unit 0)))) := rfl
example : (RDesc.stack (.mirror .unit) (.vec 0)).heapInv = (inferInstance : HeapInv (FlatStack (MirrorRegion Unit) (Capd (VecIdx Unit 0)))) := rfl
example : (RDesc.stack (.mirror .unit) (.vec 0)).stored = (inferInstance : Stored (FlatStack (MirrorRegion Unit) (Capd (VecIdx Unit 0)))) := rfl
example : (RDesc.stack (.mirror .unit) (.vec 0)).Uncoded := by decide
example : (RDesc.stack (.mirror .unit) (.vec 0)).ser (by decide) = (inferInstance : Ser (FlatStack (MirrorRegion Unit) (Capd (VecIdx Unit 0)))) := rfl
example : (RDesc.stack (.mirror .unit) (.vec 0)).sized (by decide) = (inferInstance : Sized (FlatStack (MirrorRegion Unit) (Capd (VecIdx Unit 0)))) := rfl
example : ¬ (RDesc.stack (.mirror .unit) (.vec 0)).Reservable := by decide
example : (RDesc.stack (.owned .nat) (.vec 16)).aux = (inferInstance : RegionAux (FlatStack (OwnedRegion Nat) (Capd (VecIdx (Nat × Nat) 16)))) := rfl
example : (RDesc.stack (.owned .nat) (.vec 16)).heapInv = (inferInstance : HeapInv (FlatStack (OwnedRegion Nat) (Capd (VecIdx (Nat × Nat) 16)))) := rfl
example : (RDesc.stack (.owned .nat) (.vec 16)).stored = (inferInstance : Stored (FlatStack (OwnedRegion Nat) (Capd (VecIdx (Nat × Nat) 16)))) := rfl
example : (RDesc.stack (.owned .nat) (.vec 16)).Uncoded := by decide
example : (RDesc.stack (.owned .nat) (.vec 16)).ser (by decide) = (inferInstance : Ser (FlatStack (OwnedRegion Nat) (Capd (VecIdx (Nat × Nat) 16)))) := rfl
example : (RDesc.stack (.owned .nat) (.vec 16)).sized (by decide) = (inferInstance : Sized (FlatStack (OwnedRegion Nat) (Capd (VecIdx (Nat × Nat) 16)))) := rfl
example : ¬ (RDesc.stack (.owned .nat) (.vec 16)).Reservable := by decide
example : (RDesc.stack (.vec .nat) .list).aux = (inferInstance : RegionAux (FlatStack (VecRegion Nat) (Capd IndexList))) := rfl
example : (RDesc.stack (.vec .nat) .list).heapInv = (inferInstance : HeapInv (FlatStack (VecRegion Nat) (Capd IndexList))) := rfl
example : (RDesc.stack (.vec .nat) .list).stored = (inferInstance : Stored (FlatStack (VecRegion Nat) (Capd IndexList))) := rfl
example : (RDesc.stack (.vec .nat) .list).Uncoded := by decide
example : (RDesc.stack (.vec .nat) .list).ser (by decide) = (inferInstance : Ser (FlatStack (VecRegion Nat) (Capd IndexList))) := rfl
example : ¬ (RDesc.stack (.vec .nat) .list).VecSized := by decide
example : ¬ (RDesc.stack (.vec .nat) .list).Reservable := by decide
example : (RDesc.stack (.string (.owned .u8)) (.vec 16)).aux = (inferInstance : RegionAux (FlatStack (StringRegion (OwnedRegion UInt8)) (Capd (VecIdx (Nat × Nat) 16)))) := rfl
example : (RDesc.stack (.string (.owned .u8)) (.vec 16)).heapInv = (inferInstance : HeapInv (FlatStack (StringRegion (OwnedRegion UInt8)) (Capd (VecIdx (Nat × Nat) 16)))) := rfl
example : (RDesc.stack (.string (.owned .u8)) (.vec 16)).stored = (inferInstance : Stored (FlatStack (StringRegion (OwnedRegion UInt8)) (Capd (VecIdx (Nat × Nat) 16)))) := rfl
example : (RDesc.stack (.string (.owned .u8)) (.vec 16)).Uncoded := by decide
example : (RDesc.stack (.string (.owned .u8)) (.vec 16)).ser (by decide) = (inferInstance : Ser (FlatStack (StringRegion (OwnedRegion UInt8)) (Capd (VecIdx (Nat × Nat) 16)))) := rfl
example : (RDesc.stack (.string (.owned .u8)) (.vec 16)).sized (by decide) = (inferInstance : Sized (FlatStack (StringRegion (OwnedRegion UInt8)) (Capd (VecIdx (Nat × Nat) 16)))) := rfl
example : ¬ (RDesc.stack (.string (.owned .u8)) (.vec 16)).Reservable := by decide
example : (RDesc.stack (.collapse (.string (.owned .u8))) (.vec 16)).aux = (inferInstance : RegionAux (FlatStack (CollapseSequence (StringRegion (OwnedRegion UInt8)) (Nat × Nat)) (Capd (VecIdx (Nat × Nat) 16)))) := rfl
example : (RDesc.stack (.collapse (.string (.owned .u8))) (.vec 16)).heapInv = (inferInstance : HeapInv (FlatStack (CollapseSequence (StringRegion (OwnedRegion UInt8)) (Nat × Nat)) (Capd (VecIdx (Nat × Nat) 16)))) := rfl
example : (RDesc.stack (.collapse (.string (.owned .u8))) (.vec 16)).stored = (inferInstance : Stored (FlatStack (CollapseSequence (StringRegion (OwnedRegion UInt8)) (Nat × Nat)) (Capd (VecIdx (Nat × Nat) 16)))) := rfl
example : (RDesc.stack (.collapse (.string (.owned .u8))) (.vec 16)).Uncoded := by decide
example : (RDesc.stack (.collapse (.string (.owned .u8))) (.vec 16)).ser (by decide) = (inferInstance : Ser (FlatStack (CollapseSequence (StringRegion (OwnedRegion UInt8)) (Nat × Nat)) (Capd (VecIdx (Nat × Nat) 16)))) := rfl
example : ¬ (RDesc.stack (.collapse (.string (.owned .u8))) (.vec 16)).VecSized := by decide
example : ¬ (RDesc.stack (.collapse (.string (.owned .u8))) (.vec 16)).Reservable := by decide
example : (RDesc.stack (.consec (.owned .u8) (.vec 8)) .opt).aux = (inferInstance : RegionAux (FlatStack (ConsecPairs (OwnedRegion UInt8) (Capd (VecIdx Nat 8))) (Capd IndexOptimized))) := rfl
example : (RDesc.stack (.consec (.owned .u8) (.vec 8)) .opt).heapInv = (inferInstance : HeapInv (FlatStack (ConsecPairs (OwnedRegion UInt8) (Capd (VecIdx Nat 8))) (Capd IndexOptimized))) := rfl
example : (RDesc.stack (.consec (.owned .u8) (.vec 8)) .opt).stored = (inferInstance : Stored (FlatStack (ConsecPairs (OwnedRegion UInt8) (Capd (VecIdx Nat 8))) (Capd IndexOptimized))) := rfl
example : (RDesc.stack (.consec (.owned .u8) (.vec 8)) .opt).Uncoded := by decide
example : (RDesc.stack (.consec (.owned .u8) (.vec 8)) .opt).ser (by decide) = (inferInstance : Ser (FlatStack (ConsecPairs (OwnedRegion UInt8) (Capd (VecIdx Nat 8))) (Capd IndexOptimized))) := rfl
example : ¬ (RDesc.stack (.consec (.owned .u8) (.vec 8)) .opt).VecSized := by decide
example : ¬ (RDesc.stack (.consec (.owned .u8) (.vec 8)) .opt).Reservable := by decide
example : (RDesc.stack (.consec (.owned .u8) .opt) .list).aux = (inferInstance : RegionAux (FlatStack (ConsecPairs (OwnedRegion UInt8) (Capd IndexOptimized)) (Capd IndexList))) := rfl
example : (RDesc.stack (.consec (.owned .u8) .opt) .list).heapInv = (inferInstance : HeapInv (FlatStack (ConsecPairs (OwnedRegion UInt8) (Capd IndexOptimized)) (Capd IndexList))) := rfl
example : (RDesc.stack (.consec (.owned .u8) .opt) .list).stored = (inferInstance : Stored (FlatStack (ConsecPairs (OwnedRegion UInt8) (Capd IndexOptimized)) (Capd IndexList))) := rfl
example : (RDesc.stack (.consec (.owned .u8) .opt) .list).Uncoded := by decide
example : (RDesc.stack (.consec (.owned .u8) .opt) .list).ser (by decide) = (inferInstance : Ser (FlatStack (ConsecPairs (OwnedRegion UInt8) (Capd IndexOptimized)) (Capd IndexList))) := rfl
example : ¬ (RDesc.stack (.consec (.owned .u8) .opt) .list).VecSized := by decide
example : ¬ (RDesc.stack (.consec (.owned .u8) .opt) .list).Reservable := by decide
example : (RDesc.stack (.consec (.string (.owned .u8)) (.vec 8)) (.vec 8)).aux = (inferInstance : RegionAux (FlatStack (ConsecPairs (StringRegion (OwnedRegion UInt8)) (Capd (VecIdx Nat 8))) (Capd (VecIdx Nat 8)))) := rfl
example : (RDesc.stack (.consec (.string (.owned .u8)) (.vec 8)) (.vec 8)).heapInv = (inferInstance : HeapInv (FlatStack (ConsecPairs (StringRegion (OwnedRegion UInt8)) (Capd (VecIdx Nat 8))) (Capd (VecIdx Nat 8)))) := rfl
example : (RDesc.stack (.consec (.string (.owned .u8)) (.vec 8)) (.vec 8)).stored = (inferInstance : Stored (FlatStack (ConsecPairs (StringRegion (OwnedRegion UInt8)) (Capd (VecIdx Nat 8))) (Capd (VecIdx Nat 8)))) := rfl
example : (RDesc.stack (.consec (.string (.owned .u8)) (.vec 8)) (.vec 8)).Uncoded := by decide
example : (RDesc.stack (.consec (.string (.owned .u8)) (.vec 8)) (.vec 8)).ser (by decide) = (inferInstance : Ser (FlatStack (ConsecPairs (StringRegion (OwnedRegion UInt8)) (Capd (VecIdx Nat 8))) (Capd (VecIdx Nat 8)))) := rfl
example : ¬ (RDesc.stack (.consec (.string (.owned .u8)) (.vec 8)) (.vec 8)).VecSized := by decide
example : ¬ (RDesc.stack (.consec (.string (.owned .u8)) (.vec 8)) (.vec 8)).Reservable := by decide
example : (RDesc.stack (.consec (.string (.owned .u8)) .opt) .opt).aux = (inferInstance : RegionAux (FlatStack (ConsecPairs (StringRegion (OwnedRegion UInt8)) (Capd IndexOptimized)) (Capd IndexOptimized))) := rfl
example : (RDesc.stack (.consec (.string (.owned .u8)) .opt) .opt).heapInv = (inferInstance : HeapInv (FlatStack (ConsecPairs (StringRegion (OwnedRegion UInt8)) (Capd IndexOptimized)) (Capd IndexOptimized))) := rfl
example : (RDesc.stack (.consec (.string (.owned .u8)) .opt) .opt).stored = (inferInstance : Stored (FlatStack (ConsecPairs (StringRegion (OwnedRegion UInt8)) (Capd IndexOptimized)) (Capd IndexOptimized))) := rfl
example : (RDesc.stack (.consec (.string (.owned .u8)) .opt) .opt).Uncoded := by decide
example : (RDesc.stack (.consec (.string (.owned .u8)) .opt) .opt).ser (by decide) = (inferInstance : Ser (FlatStack (ConsecPairs (StringRegion (OwnedRegion UInt8)) (Capd IndexOptimized)) (Capd IndexOptimized))) := rfl
example : ¬ (RDesc.stack (.consec (.string (.owned .u8)) .opt) .opt).VecSized := by decide
example : ¬ (RDesc.stack (.consec (.string (.owned .u8)) .opt) .opt).Reservable := by decide
example : (RDesc.stack (.consec (.string (.owned .u8)) .list) .list).aux = (inferInstance : RegionAux (FlatStack (ConsecPairs (StringRegion (OwnedRegion UInt8)) (Capd IndexList)) (Capd IndexList))) := rfl
example : (RDesc.stack (.consec (.string (.owned .u8)) .list) .list).heapInv = (inferInstance : HeapInv (FlatStack (ConsecPairs (StringRegion (OwnedRegion UInt8)) (Capd IndexList)) (Capd IndexList))) := rfl
example : (RDesc.stack (.consec (.string (.owned .u8)) .list) .list).stored = (inferInstance : Stored (FlatStack (ConsecPairs (StringRegion (OwnedRegion UInt8)) (Capd IndexList)) (Capd IndexList))) := rfl
example : (RDesc.stack (.consec (.string (.owned .u8)) .list) .list).Uncoded := by decide
example : (RDesc.stack (.consec (.string (.owned .u8)) .list) .list).ser (by decide) = (inferInstance : Ser (FlatStack (ConsecPairs (StringRegion (OwnedRegion UInt8)) (Capd IndexList)) (Capd IndexList))) := rfl
example : ¬ (RDesc.stack (.consec (.string (.owned .u8)) .list) .list).VecSized := by decide
example : ¬ (RDesc.stack (.consec (.string (.owned .u8)) .list) .list).Reservable := by decide
example : (RDesc.stack (.string (.collapse (.owned .u8))) (.vec 16)).aux = (inferInstance : RegionAux (FlatStack (StringRegion (CollapseSequence (OwnedRegion UInt8) (Nat × Nat))) (Capd (VecIdx (Nat × Nat) 16)))) := rfl
example : (RDesc.stack (.string (.collapse (.owned .u8))) (.vec 16)).heapInv = (inferInstance : HeapInv (FlatStack (StringRegion (CollapseSequence (OwnedRegion UInt8) (Nat × Nat))) (Capd (VecIdx (Nat × Nat) 16)))) := rfl
example : (RDesc.stack (.string (.collapse (.owned .u8))) (.vec 16)).stored = (inferInstance : Stored (FlatStack (StringRegion (CollapseSequence (OwnedRegion UInt8) (Nat × Nat))) (Capd (VecIdx (Nat × Nat) 16)))) := rfl
example : (RDesc.stack (.string (.collapse (.owned .u8))) (.vec 16)).Uncoded := by decide
example : (RDesc.stack (.string (.collapse (.owned .u8))) (.vec 16)).ser (by decide) = (inferInstance : Ser (FlatStack (StringRegion (CollapseSequence (OwnedRegion UInt8) (Nat × Nat))) (Capd (VecIdx (Nat × Nat) 16)))) := rfl
example : ¬ (RDesc.stack (.string (.collapse (.owned .u8))) (.vec 16)).VecSized := by decide
example : ¬ (RDesc.stack (.string (.collapse (.owned .u8))) (.vec 16)).Reservable := by decide
example : (RDesc.stack (.collapse (.consec (.string (.owned .u8)) .opt)) .list).aux = (inferInstance : RegionAux (FlatStack (CollapseSequence (ConsecPairs (StringRegion (OwnedRegion UInt8)) (Capd IndexOptimized)) Nat) (Capd IndexList))) := rfl
example : (RDesc.stack (.collapse (.consec (.string (.owned .u8)) .opt)) .list).heapInv = (inferInstance : HeapInv (FlatStack (CollapseSequence (ConsecPairs (StringRegion (OwnedRegion UInt8)) (Capd IndexOptimized)) Nat) (Capd IndexList))) := rfl
example : (RDesc.stack (.collapse (.consec (.string (.owned .u8)) .opt)) .list).stored = (inferInstance : Stored (FlatStack (CollapseSequence (ConsecPairs (StringRegion (OwnedRegion UInt8)) (Capd IndexOptimized)) Nat) (Capd IndexList))) := rfl
example : (RDesc.stack (.collapse (.consec (.string (.owned .u8)) .opt)) .list).Uncoded := by decide
example : (RDesc.stack (.collapse (.consec (.string (.owned .u8)) .opt)) .list).ser (by decide) = (inferInstance : Ser (FlatStack (CollapseSequence (ConsecPairs (StringRegion (OwnedRegion UInt8)) (Capd IndexOptimized)) Nat) (Capd IndexList))) := rfl
example : ¬ (RDesc.stack (.collapse (.consec (.string (.owned .u8)) .opt)) .list).VecSized := by decide
example : ¬ (RDesc.stack (.collapse (.consec (.string (.owned .u8)) .opt)) .list).Reservable := by decide
example : (RDesc.stack (.consec .codec .opt) (.vec 8)).aux = (inferInstance : RegionAux (FlatStack (ConsecPairs Codec.Region (Capd IndexOptimized)) (Capd (VecIdx Nat 8)))) := rfl
example : (RDesc.stack (.consec .codec .opt) (.vec 8)).heapInv = (inferInstance : HeapInv (FlatStack (ConsecPairs Codec.Region (Capd IndexOptimized)) (Capd (VecIdx Nat 8)))) := rfl
example : (RDesc.stack (.consec .codec .opt) (.vec 8)).stored = (inferInstance : Stored (FlatStack (ConsecPairs Codec.Region (Capd IndexOptimized)) (Capd (VecIdx Nat 8)))) := rfl
example : ¬ (RDesc.stack (.consec .codec .opt) (.vec 8)).Uncoded := by decide
example : ¬ (RDesc.stack (.consec .codec .opt) (.vec 8)).Serde := by decide
example : ¬ (RDesc.stack (.consec .codec .opt) (.vec 8)).VecSized := by decide
example : ¬ (RDesc.stack (.consec .codec .opt) (.vec 8)).Reservable := by decide
example : (RDesc.stack (.option (.option (.mirror .nat))) (.vec 2)).aux = (inferInstance : RegionAux (FlatStack (OptionRegion (OptionRegion (MirrorRegion Nat))) (Capd (VecIdx (Option (Option Nat)) 2)))) := rfl
example : (RDesc.stack (.option (.option (.mirror .nat))) (.vec 2)).heapInv = (inferInstance : HeapInv (FlatStack (OptionRegion (OptionRegion (MirrorRegion Nat))) (Capd (VecIdx (Option (Option Nat)) 2)))) := rfl
example : (RDesc.stack (.option (.option (.mirror .nat))) (.vec 2)).stored = (inferInstance : Stored (FlatStack (OptionRegion (OptionRegion (MirrorRegion Nat))) (Capd (VecIdx (Option (Option Nat)) 2)))) := rfl
example : (RDesc.stack (.option (.option (.mirror .nat))) (.vec 2)).Uncoded := by decide
example : (RDesc.stack (.option (.option (.mirror .nat))) (.vec 2)).ser (by decide) = (inferInstance : Ser (FlatStack (OptionRegion (OptionRegion (MirrorRegion Nat))) (Capd (VecIdx (Option (Option Nat)) 2)))) := rfl
example : (RDesc.stack (.option (.option (.mirror .nat))) (.vec 2)).sized (by decide) = (inferInstance : Sized (FlatStack (OptionRegion (OptionRegion (MirrorRegion Nat))) (Capd (VecIdx (Option (Option Nat)) 2)))) := rfl
example : ¬ (RDesc.stack (.option (.option (.mirror .nat))) (.vec 2)).Reservable := by decide
example : (RDesc.stack (.tupleCons (.mirror .nat) .tupleNil) (.vec 1)).aux = (inferInstance : RegionAux (FlatStack (TupleCons (MirrorRegion Nat) TupleNil) (Capd (VecIdx (Nat × Unit) 1)))) := rfl
example : (RDesc.stack (.tupleCons (.mirror .nat) .tupleNil) (.vec 1)).heapInv = (inferInstance : HeapInv (FlatStack (TupleCons (MirrorRegion Nat) TupleNil) (Capd (VecIdx (Nat × Unit) 1)))) := rfl
example : (RDesc.stack (.tupleCons (.mirror .nat) .tupleNil) (.vec 1)).stored = (inferInstance : Stored (FlatStack (TupleCons (MirrorRegion Nat) TupleNil) (Capd (VecIdx (Nat × Unit) 1)))) := rfl
example : (RDesc.stack (.tupleCons (.mirror .nat) .tupleNil) (.vec 1)).Uncoded := by decide
example : (RDesc.stack (.tupleCons (.mirror .nat) .tupleNil) (.vec 1)).ser (by decide) = (inferInstance : Ser (FlatStack (TupleCons (MirrorRegion Nat) TupleNil) (Capd (VecIdx (Nat × Unit) 1)))) := rfl
example : (RDesc.stack (.tupleCons (.mirror .nat) .tupleNil) (.vec 1)).sized (by decide) = (inferInstance : Sized (FlatStack (TupleCons (MirrorRegion Nat) TupleNil) (Capd (VecIdx (Nat × Unit) 1)))) := rfl
example : ¬ (RDesc.stack (.tupleCons (.mirror .nat) .tupleNil) (.vec 1)).Reservable := by decide
example : (RDesc.stack (.option .codec) (.vec 24)).aux = (inferInstance : RegionAux (FlatStack (OptionRegion Codec.Region) (Capd (VecIdx (Option (Nat × Nat)) 24)))) := rfl
example : (RDesc.stack (.option .codec) (.vec 24)).heapInv = (inferInstance : HeapInv (FlatStack (OptionRegion Codec.Region) (Capd (VecIdx (Option (Nat × Nat)) 24)))) := rfl
example : (RDesc.stack (.option .codec) (.vec 24)).stored = (inferInstance : Stored (FlatStack (OptionRegion Codec.Region) (Capd (VecIdx (Option (Nat × Nat)) 24)))) := rfl
example : ¬ (RDesc.stack (.option .codec) (.vec 24)).Uncoded := by decide
example : ¬ (RDesc.stack (.option .codec) (.vec 24)).Serde := by decide
example : ¬ (RDesc.stack (.option .codec) (.vec 24)).VecSized := by decide
example : ¬ (RDesc.stack (.option .codec) (.vec 24)).Reservable := by decide
example : (RDesc.stack (.slice (.string (.owned .u8)) (.vec 16)) (.vec 16)).aux = (inferInstance : RegionAux (FlatStack (SliceRegion (StringRegion (OwnedRegion UInt8)) (Capd (VecIdx (Nat × Nat) 16))) (Capd (VecIdx (Nat × Nat) 16)))) := rfl
example : (RDesc.stack (.slice (.string (.owned .u8)) (.vec 16)) (.vec 16)).heapInv = (inferInstance : HeapInv (FlatStack (SliceRegion (StringRegion (OwnedRegion UInt8)) (Capd (VecIdx (Nat × Nat) 16))) (Capd (VecIdx (Nat × Nat) 16)))) := rfl
example : (RDesc.stack (.slice (.string (.owned .u8)) (.vec 16)) (.vec 16)).stored = (inferInstance : Stored (FlatStack (SliceRegion (StringRegion (OwnedRegion UInt8)) (Capd (VecIdx (Nat × Nat) 16))) (Capd (VecIdx (Nat × Nat) 16)))) := rfl
example : (RDesc.stack (.slice (.string (.owned .u8)) (.vec 16)) (.vec 16)).Uncoded := by decide
example : (RDesc.stack (.slice (.string (.owned .u8)) (.vec 16)) (.vec 16)).ser (by decide) = (inferInstance : Ser (FlatStack (SliceRegion (StringRegion (OwnedRegion UInt8)) (Capd (VecIdx (Nat × Nat) 16))) (Capd (VecIdx (Nat × Nat) 16)))) := rfl
example : (RDesc.stack (.slice (.string (.owned .u8)) (.vec 16)) (.vec 16)).sized (by decide) = (inferInstance : Sized (FlatStack (SliceRegion (StringRegion (OwnedRegion UInt8)) (Capd (VecIdx (Nat × Nat) 16))) (Capd (VecIdx (Nat × Nat) 16)))) := rfl
example : ¬ (RDesc.stack (.slice (.string (.owned .u8)) (.vec 16)) (.vec 16)).Reservable := by decide
example : (RDesc.stack (.slice (.consec (.string (.owned .u8)) .opt) .opt) (.vec 16)).aux = (inferInstance : RegionAux (FlatStack (SliceRegion (ConsecPairs (StringRegion (OwnedRegion UInt8)) (Capd IndexOptimized)) (Capd IndexOptimized)) (Capd (VecIdx (Nat × Nat) 16)))) := rfl
example : (RDesc.stack (.slice (.consec (.string (.owned .u8)) .opt) .opt) (.vec 16)).heapInv = (inferInstance : HeapInv (FlatStack (SliceRegion (ConsecPairs (StringRegion (OwnedRegion UInt8)) (Capd IndexOptimized)) (Capd IndexOptimized)) (Capd (VecIdx (Nat × Nat) 16)))) := rfl
example : (RDesc.stack (.slice (.consec (.string (.owned .u8)) .opt) .opt) (.vec 16)).stored = (inferInstance : Stored (FlatStack (SliceRegion (ConsecPairs (StringRegion (OwnedRegion UInt8)) (Capd IndexOptimized)) (Capd IndexOptimized)) (Capd (VecIdx (Nat × Nat) 16)))) := rfl
example : (RDesc.stack (.slice (.consec (.string (.owned .u8)) .opt) .opt) (.vec 16)).Uncoded := by decide
example : (RDesc.stack (.slice (.consec (.string (.owned .u8)) .opt) .opt) (.vec 16)).ser (by decide) = (inferInstance : Ser (FlatStack (SliceRegion (ConsecPairs (StringRegion (OwnedRegion UInt8)) (Capd IndexOptimized)) (Capd IndexOptimized)) (Capd (VecIdx (Nat × Nat) 16)))) := rfl
example : ¬ (RDesc.stack (.slice (.consec (.string (.owned .u8)) .opt) .opt) (.vec 16)).VecSized := by decide
example : ¬ (RDesc.stack (.slice (.consec (.string (.owned .u8)) .opt) .opt) (.vec 16)).Reservable := by decide
example : (RDesc.stack (.slice (.mirror .nat) .list) (.vec 16)).aux = (inferInstance : RegionAux (FlatStack (SliceRegion (MirrorRegion Nat) (Capd IndexList)) (Capd (VecIdx (Nat × Nat) 16)))) := rfl
example : (RDesc.stack (.slice (.mirror .nat) .list) (.vec 16)).heapInv = (inferInstance : HeapInv (FlatStack (SliceRegion (MirrorRegion Nat) (Capd IndexList)) (Capd (VecIdx (Nat × Nat) 16)))) := rfl
example : (RDesc.stack (.slice (.mirror .nat) .list) (.vec 16)).stored = (inferInstance : Stored (FlatStack (SliceRegion (MirrorRegion Nat) (Capd IndexList)) (Capd (VecIdx (Nat × Nat) 16)))) := rfl
example : (RDesc.stack (.slice (.mirror .nat) .list) (.vec 16)).Uncoded := by decide
example : (RDesc.stack (.slice (.mirror .nat) .list) (.vec 16)).ser (by decide) = (inferInstance : Ser (FlatStack (SliceRegion (MirrorRegion Nat) (Capd IndexList)) (Capd (VecIdx (Nat × Nat) 16)))) := rfl
example : ¬ (RDesc.stack (.slice (.mirror .nat) .list) (.vec 16)).VecSized := by decide
example : ¬ (RDesc.stack (.slice (.mirror .nat) .list) (.vec 16)).Reservable := by decide
example : (RDesc.stack (.columns (.mirror .nat) .opt) (.vec 8)).aux = (inferInstance : RegionAux (FlatStack (ColumnsRegion (MirrorRegion Nat) Nat (Capd IndexOptimized)) (Capd (VecIdx Nat 8)))) := rfl
example : (RDesc.stack (.columns (.mirror .nat) .opt) (.vec 8)).heapInv = (inferInstance : HeapInv (FlatStack (ColumnsRegion (MirrorRegion Nat) Nat (Capd IndexOptimized)) (Capd (VecIdx Nat 8)))) := rfl
example : (RDesc.stack (.columns (.mirror .nat) .opt) (.vec 8)).stored = (inferInstance : Stored (FlatStack (ColumnsRegion (MirrorRegion Nat) Nat (Capd IndexOptimized)) (Capd (VecIdx Nat 8)))) := rfl
example : (RDesc.stack (.columns (.mirror .nat) .opt) (.vec 8)).Uncoded := by decide
example : (RDesc.stack (.columns (.mirror .nat) .opt) (.vec 8)).ser (by decide) = (inferInstance : Ser (FlatStack (ColumnsRegion (MirrorRegion Nat) Nat (Capd IndexOptimized)) (Capd (VecIdx Nat 8)))) := rfl
example : ¬ (RDesc.stack (.columns (.mirror .nat) .opt) (.vec 8)).VecSized := by decide
example : ¬ (RDesc.stack (.columns (.mirror .nat) .opt) (.vec 8)).Reservable := by decide
example : (RDesc.stack (.columns (.mirror .nat) (.vec 8)) .opt).aux = (inferInstance : RegionAux (FlatStack (ColumnsRegion (MirrorRegion Nat) Nat (Capd (VecIdx Nat 8))) (Capd IndexOptimized))) := rfl
example : (RDesc.stack (.columns (.mirror .nat) (.vec 8)) .opt).heapInv = (inferInstance : HeapInv (FlatStack (ColumnsRegion (MirrorRegion Nat) Nat (Capd (VecIdx Nat 8))) (Capd IndexOptimized))) := rfl
example : (RDesc.stack (.columns (.mirror .nat) (.vec 8)) .opt).stored = (inferInstance : Stored (FlatStack (ColumnsRegion (MirrorRegion Nat) Nat (Capd (VecIdx Nat 8))) (Capd IndexOptimized))) := rfl
example : (RDesc.stack (.columns (.mirror .nat) (.vec 8)) .opt).Uncoded := by decide
example : (RDesc.stack (.columns (.mirror .nat) (.vec 8)) .opt).ser (by decide) = (inferInstance : Ser (FlatStack (ColumnsRegion (MirrorRegion Nat) Nat (Capd (VecIdx Nat 8))) (Capd IndexOptimized))) := rfl
example : ¬ (RDesc.stack (.columns (.mirror .nat) (.vec 8)) .opt).VecSized := by decide
example : ¬ (RDesc.stack (.columns (.mirror .nat) (.vec 8)) .opt).Reservable := by decide
example : (RDesc.stack (.columns (.mirror .nat) .list) .list).aux = (inferInstance : RegionAux (FlatStack (ColumnsRegion (MirrorRegion Nat) Nat (Capd IndexList)) (Capd IndexList))) := rfl
example : (RDesc.stack (.columns (.mirror .nat) .list) .list).heapInv = (inferInstance : HeapInv (FlatStack (ColumnsRegion (MirrorRegion Nat) Nat (Capd IndexList)) (Capd IndexList))) := rfl
example : (RDesc.stack (.columns (.mirror .nat) .list) .list).stored = (inferInstance : Stored (FlatStack (ColumnsRegion (MirrorRegion Nat) Nat (Capd IndexList)) (Capd IndexList))) := rfl
example : (RDesc.stack (.columns (.mirror .nat) .list) .list).Uncoded := by decide
example : (RDesc.stack (.columns (.mirror .nat) .list) .list).ser (by decide) = (inferInstance : Ser (FlatStack (ColumnsRegion (MirrorRegion Nat) Nat (Capd IndexList)) (Capd IndexList))) := rfl
example : ¬ (RDesc.stack (.columns (.mirror .nat) .list) .list).VecSized := by decide
example : ¬ (RDesc.stack (.columns (.mirror .nat) .list) .list).Reservable := by decide
example : (RDesc.stack (.columns (.owned .u8) .opt) (.vec 8)).aux = (inferInstance : RegionAux (FlatStack (ColumnsRegion (OwnedRegion UInt8) (Nat × Nat) (Capd IndexOptimized)) (Capd (VecIdx Nat 8)))) := rfl
example : (RDesc.stack (.columns (.owned .u8) .opt) (.vec 8)).heapInv = (inferInstance : HeapInv (FlatStack (ColumnsRegion (OwnedRegion UInt8) (Nat × Nat) (Capd IndexOptimized)) (Capd (VecIdx Nat 8)))) := rfl
example : (RDesc.stack (.columns (.owned .u8) .opt) (.vec 8)).stored = (inferInstance : Stored (FlatStack (ColumnsRegion (OwnedRegion UInt8) (Nat × Nat) (Capd IndexOptimized)) (Capd (VecIdx Nat 8)))) := rfl
example : (RDesc.stack (.columns (.owned .u8) .opt) (.vec 8)).Uncoded := by decide
example : (RDesc.stack (.columns (.owned .u8) .opt) (.vec 8)).ser (by decide) = (inferInstance : Ser (FlatStack (ColumnsRegion (OwnedRegion UInt8) (Nat × Nat) (Capd IndexOptimized)) (Capd (VecIdx Nat 8)))) := rfl
example : ¬ (RDesc.stack (.columns (.owned .u8) .opt) (.vec 8)).VecSized := by decide
example : ¬ (RDesc.stack (.columns (.owned .u8) .opt) (.vec 8)).Reservable := by decide
example : (RDesc.stack (.columns (.consec (.string (.owned .u8)) .opt) .opt) .opt).aux = (inferInstance : RegionAux (FlatStack (ColumnsRegion (ConsecPairs (StringRegion (OwnedRegion UInt8)) (Capd IndexOptimized)) Nat (Capd IndexOptimized)) (Capd IndexOptimized))) := rfl
example : (RDesc.stack (.columns (.consec (.string (.owned .u8)) .opt) .opt) .opt).heapInv = (inferInstance : HeapInv (FlatStack (ColumnsRegion (ConsecPairs (StringRegion (OwnedRegion UInt8)) (Capd IndexOptimized)) Nat (Capd IndexOptimized)) (Capd IndexOptimized))) := rfl
example : (RDesc.stack (.columns (.consec (.string (.owned .u8)) .opt) .opt) .opt).stored = (inferInstance : Stored (FlatStack (ColumnsRegion (ConsecPairs (StringRegion (OwnedRegion UInt8)) (Capd IndexOptimized)) Nat (Capd IndexOptimized)) (Capd IndexOptimized))) := rfl
example : (RDesc.stack (.columns (.consec (.string (.owned .u8)) .opt) .opt) .opt).Uncoded := by decide
example : (RDesc.stack (.columns (.consec (.string (.owned .u8)) .opt) .opt) .opt).ser (by decide) = (inferInstance : Ser (FlatStack (ColumnsRegion (ConsecPairs (StringRegion (OwnedRegion UInt8)) (Capd IndexOptimized)) Nat (Capd IndexOptimized)) (Capd IndexOptimized))) := rfl
example : ¬ (RDesc.stack (.columns (.consec (.string (.owned .u8)) .opt) .opt) .opt).VecSized := by decide
example : ¬ (RDesc.stack (.columns (.consec (.string (.owned .u8)) .opt) .opt) .opt).Reservable := by decide
example : (RDesc.stack (.columns (.collapse (.consec (.string (.owned .u8)) .opt)) .opt) .list).aux = (inferInstance : RegionAux (FlatStack (ColumnsRegion (CollapseSequence (ConsecPairs (StringRegion (OwnedRegion UInt8)) (Capd IndexOptimized)) Nat) Nat (Capd IndexOptimized)) (Capd IndexList))) := rfl
example : (RDesc.stack (.columns (.collapse (.consec (.string (.owned .u8)) .opt)) .opt) .list).heapInv = (inferInstance : HeapInv (FlatStack (ColumnsRegion (CollapseSequence (ConsecPairs (StringRegion (OwnedRegion UInt8)) (Capd IndexOptimized)) Nat) Nat (Capd IndexOptimized)) (Capd IndexList))) := rfl
example : (RDesc.stack (.columns (.collapse (.consec (.string (.owned .u8)) .opt)) .opt) .list).stored = (inferInstance : Stored (FlatStack (ColumnsRegion (CollapseSequence (ConsecPairs (StringRegion (OwnedRegion UInt8)) (Capd IndexOptimized)) Nat) Nat (Capd IndexOptimized)) (Capd IndexList))) := rfl
example : (RDesc.stack (.columns (.collapse (.consec (.string (.owned .u8)) .opt)) .opt) .list).Uncoded := by decide
example : (RDesc.stack (.columns (.collapse (.consec (.string (.owned .u8)) .opt)) .opt) .list).ser (by decide) = (inferInstance : Ser (FlatStack (ColumnsRegion (CollapseSequence (ConsecPairs (StringRegion (OwnedRegion UInt8)) (Capd IndexOptimized)) Nat) Nat (Capd IndexOptimized)) (Capd IndexList))) := rfl
example : ¬ (RDesc.stack (.columns (.collapse (.consec (.string (.owned .u8)) .opt)) .opt) .list).VecSized := by decide
example : ¬ (RDesc.stack (.columns (.collapse (.consec (.string (.owned .u8)) .opt)) .opt) .list).Reservable := by decide
example : (RDesc.stack (.string (.consec (.owned .u8) .list)) (.vec 8)).aux = (inferInstance : RegionAux (FlatStack (StringRegion (ConsecPairs (OwnedRegion UInt8) (Capd IndexList))) (Capd (VecIdx Nat 8)))) := rfl
example : (RDesc.stack (.string (.consec (.owned .u8) .list)) (.vec 8)).heapInv = (inferInstance : HeapInv (FlatStack (StringRegion (ConsecPairs (OwnedRegion UInt8) (Capd IndexList))) (Capd (VecIdx Nat 8)))) := rfl
example : (RDesc.stack (.string (.consec (.owned .u8) .list)) (.vec 8)).stored = (inferInstance : Stored (FlatStack (StringRegion (ConsecPairs (OwnedRegion UInt8) (Capd IndexList))) (Capd (VecIdx Nat 8)))) := rfl
example : (RDesc.stack (.string (.consec (.owned .u8) .list)) (.vec 8)).Uncoded := by decide
example : (RDesc.stack (.string (.consec (.owned .u8) .list)) (.vec 8)).ser (by decide) = (inferInstance : Ser (FlatStack (StringRegion (ConsecPairs (OwnedRegion UInt8) (Capd IndexList))) (Capd (VecIdx Nat 8)))) := rfl
example : ¬ (RDesc.stack (.string (.consec (.owned .u8) .list)) (.vec 8)).VecSized := by decide
example : ¬ (RDesc.stack (.string (.consec (.owned .u8) .list)) (.vec 8)).Reservable := by decide
example : (RDesc.stack (.collapse (.owned .f64)) (.vec 16)).aux = (inferInstance : RegionAux (FlatStack (CollapseSequence (OwnedRegion F64) (Nat × Nat)) (Capd (VecIdx (Nat × Nat) 16)))) := rfl
example : (RDesc.stack (.collapse (.owned .f64)) (.vec 16)).heapInv = (inferInstance : HeapInv (FlatStack (CollapseSequence (OwnedRegion F64) (Nat × Nat)) (Capd (VecIdx (Nat × Nat) 16)))) := rfl
example : (RDesc.stack (.collapse (.owned .f64)) (.vec 16)).stored = (inferInstance : Stored (FlatStack (CollapseSequence (OwnedRegion F64) (Nat × Nat)) (Capd (VecIdx (Nat × Nat) 16)))) := rfl
example : (RDesc.stack (.collapse (.owned .f64)) (.vec 16)).Uncoded := by decide
example : (RDesc.stack (.collapse (.owned .f64)) (.vec 16)).ser (by decide) = (inferInstance : Ser (FlatStack (CollapseSequence (OwnedRegion F64) (Nat × Nat)) (Capd (VecIdx (Nat × Nat) 16)))) := rfl
example : ¬ (RDesc.stack (.collapse (.owned .f64)) (.vec 16)).VecSized := by decide
example : ¬ (RDesc.stack (.collapse (.owned .f64)) (.vec 16)).Reservable := by decide
example : (RDesc.stack (.columns .huffmanU8 (.vec 8)) (.vec 8)).aux = (inferInstance : RegionAux (FlatStack (ColumnsRegion HuffU8 (Nat × Nat) (Capd (VecIdx Nat 8))) (Capd (VecIdx Nat 8)))) := rfl
example : (RDesc.stack (.columns .huffmanU8 (.vec 8)) (.vec 8)).heapInv = (inferInstance : HeapInv (FlatStack (ColumnsRegion HuffU8 (Nat × Nat) (Capd (VecIdx Nat 8))) (Capd (VecIdx Nat 8)))) := rfl
example : (RDesc.stack (.columns .huffmanU8 (.vec 8)) (.vec 8)).stored = (inferInstance : Stored (FlatStack (ColumnsRegion HuffU8 (Nat × Nat) (Capd (VecIdx Nat 8))) (Capd (VecIdx Nat 8)))) := rfl
example : ¬ (RDesc.stack (.columns .huffmanU8 (.vec 8)) (.vec 8)).Uncoded := by decide
example : ¬ (RDesc.stack (.columns .huffmanU8 (.vec 8)) (.vec 8)).Serde := by decide
example : ¬ (RDesc.stack (.columns .huffmanU8 (.vec 8)) (.vec 8)).VecSized := by decide
example : ¬ (RDesc.stack (.columns .huffmanU8 (.vec 8)) (.vec 8)).Reservable := by decide
example : (RDesc.stack (.tupleCons (.mirror .nat) (.tupleCons (.mirror .nat) (.tupleCons (.mirror .nat) (.tupleCons (.mirror .nat) (.tupleCons (.mirror .nat) (.tupleCons (.mirror .nat) (.tupleCons (.mirror .nat) (.tupleCons (.mirror .nat) (.tupleCons (.string (.owned .u8)) (.tupleCons (.owned .u8) .tupleNil)))))))))) (.vec 40)).aux = (inferInstance : RegionAux (FlatStack (TupleCons (MirrorRegion Nat) (TupleCons (MirrorRegion Nat) (TupleCons (MirrorRegion Nat) (TupleCons (MirrorRegion Nat) (TupleCons (MirrorRegion Nat) (TupleCons (MirrorRegion Nat) (TupleCons (MirrorRegion Nat) (TupleCons (MirrorRegion Nat) (TupleCons (StringRegion (OwnedRegion UInt8)) (TupleCons (OwnedRegion UInt8) TupleNil)))))))))) (Capd (VecIdx (Nat × (Nat × (Nat × (Nat × (Nat × (Nat × (Nat × (Nat × ((Nat × Nat) × ((Nat × Nat) × Unit)))))))))) 40)))) := rfl
example : (RDesc.stack (.tupleCons (.mirror .nat) (.tupleCons (.mirror .nat) (.tupleCons (.mirror .nat) (.tupleCons (.mirror .nat) (.tupleCons (.mirror .nat) (.tupleCons (.mirror .nat) (.tupleCons (.mirror .nat) (.tupleCons (.mirror .nat) (.tupleCons (.string (.owned .u8)) (.tupleCons (.owned .u8) .tupleNil)))))))))) (.vec 40)).heapInv = (inferInstance : HeapInv (FlatStack (TupleCons (MirrorRegion Nat) (TupleCons (MirrorRegion Nat) (TupleCons (MirrorRegion Nat) (TupleCons (MirrorRegion Nat) (TupleCons (MirrorRegion Nat) (TupleCons (MirrorRegion Nat) (TupleCons (MirrorRegion Nat) (TupleCons (MirrorRegion Nat) (TupleCons (StringRegion (OwnedRegion UInt8)) (TupleCons (OwnedRegion UInt8) TupleNil)))))))))) (Capd (VecIdx (Nat × (Nat × (Nat × (Nat × (Nat × (Nat × (Nat × (Nat × ((Nat × Nat) × ((Nat × Nat) × Unit)))))))))) 40)))) := rfl
example : (RDesc.stack (.tupleCons (.mirror .nat) (.tupleCons (.mirror .nat) (.tupleCons (.mirror .nat) (.tupleCons (.mirror .nat) (.tupleCons (.mirror .nat) (.tupleCons (.mirror .nat) (.tupleCons (.mirror .nat) (.tupleCons (.mirror .nat) (.tupleCons (.string (.owned .u8)) (.tupleCons (.owned .u8) .tupleNil)))))))))) (.vec 40)).stored = (inferInstance : Stored (FlatStack (TupleCons (MirrorRegion Nat) (TupleCons (MirrorRegion Nat) (TupleCons (MirrorRegion Nat) (TupleCons (MirrorRegion Nat) (TupleCons (MirrorRegion Nat) (TupleCons (MirrorRegion Nat) (TupleCons (MirrorRegion Nat) (TupleCons (MirrorRegion Nat) (TupleCons (StringRegion (OwnedRegion UInt8)) (TupleCons (OwnedRegion UInt8) TupleNil)))))))))) (Capd (VecIdx (Nat × (Nat × (Nat × (Nat × (Nat × (Nat × (Nat × (Nat × ((Nat × Nat) × ((Nat × Nat) × Unit)))))))))) 40)))) := rfl
example : (RDesc.stack (.tupleCons (.mirror .nat) (.tupleCons (.mirror .nat) (.tupleCons (.mirror .nat) (.tupleCons (.mirror .nat) (.tupleCons (.mirror .nat) (.tupleCons (.mirror .nat) (.tupleCons (.mirror .nat) (.tupleCons (.mirror .nat) (.tupleCons (.string (.owned .u8)) (.tupleCons (.owned .u8) .tupleNil)))))))))) (.vec 40)).Uncoded := by decide
example : (RDesc.stack (.tupleCons (.mirror .nat) (.tupleCons (.mirror .nat) (.tupleCons (.mirror .nat) (.tupleCons (.mirror .nat) (.tupleCons (.mirror .nat) (.tupleCons (.mirror .nat) (.tupleCons (.mirror .nat) (.tupleCons (.mirror .nat) (.tupleCons (.string (.owned .u8)) (.tupleCons (.owned .u8) .tupleNil)))))))))) (.vec 40)).ser (by decide) = (inferInstance : Ser (FlatStack (TupleCons (MirrorRegion Nat) (TupleCons (MirrorRegion Nat) (TupleCons (MirrorRegion Nat) (TupleCons (MirrorRegion Nat) (TupleCons (MirrorRegion Nat) (TupleCons (MirrorRegion Nat) (TupleCons (MirrorRegion Nat) (TupleCons (MirrorRegion Nat) (TupleCons (StringRegion (OwnedRegion UInt8)) (TupleCons (OwnedRegion UInt8) TupleNil)))))))))) (Capd (VecIdx (Nat × (Nat × (Nat × (Nat × (Nat × (Nat × (Nat × (Nat × ((Nat × Nat) × ((Nat × Nat) × Unit)))))))))) 40)))) := rfl
example : (RDesc.stack (.tupleCons (.mirror .nat) (.tupleCons (.mirror .nat) (.tupleCons (.mirror .nat) (.tupleCons (.mirror .nat) (.tupleCons (.mirror .nat) (.tupleCons (.mirror .nat) (.tupleCons (.mirror .nat) (.tupleCons (.mirror .nat) (.tupleCons (.string (.owned .u8)) (.tupleCons (.owned .u8) .tupleNil)))))))))) (.vec 40)).sized (by decide) = (inferInstance : Sized (FlatStack (TupleCons (MirrorRegion Nat) (TupleCons (MirrorRegion Nat) (TupleCons (MirrorRegion Nat) (TupleCons (MirrorRegion Nat) (TupleCons (MirrorRegion Nat) (TupleCons (MirrorRegion Nat) (TupleCons (MirrorRegion Nat) (TupleCons (MirrorRegion Nat) (TupleCons (StringRegion (OwnedRegion UInt8)) (TupleCons (OwnedRegion UInt8) TupleNil)))))))))) (Capd (VecIdx (Nat × (Nat × (Nat × (Nat × (Nat × (Nat × (Nat × (Nat × ((Nat × Nat) × ((Nat × Nat) × Unit)))))))))) 40)))) := rfl
example : ¬ (RDesc.stack (.tupleCons (.mirror .nat) (.tupleCons (.mirror .nat) (.tupleCons (.mirror .nat) (.tupleCons (.mirror .nat) (.tupleCons (.mirror .nat) (.tupleCons (.mirror .nat) (.tupleCons (.mirror .nat) (.tupleCons (.mirror .nat) (.tupleCons (.string (.owned .u8)) (.tupleCons (.owned .u8) .tupleNil)))))))))) (.vec 40)).Reservable := by decide
end FC.CoveredUniverseOps
