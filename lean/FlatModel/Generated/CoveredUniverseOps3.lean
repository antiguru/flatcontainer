-- @generated by tools/gen_covered_universe_ops.py from Generated/CoveredUniverse.lean, CoveredOps.lean, CoveredSer.lean, CoveredHeap.lean -- do not edit
import FlatModel.Props.UniverseSer
import FlatModel.Props.UniverseHeap
import FlatModel.Generated.CoveredOps
import FlatModel.Generated.CoveredSer
import FlatModel.Generated.CoveredHeap
/-! Part 3 of 4 of what Generated/CoveredUniverseOps.lean describes. -/
set_option synthInstance.maxHeartbeats 400000
set_option synthInstance.maxSize 2048
namespace FC.CoveredUniverseOps
open FC FC.Universe
attribute [local instance] SizeEnv.std
attribute [local irreducible] instRegionMirrorRegion instRegionOwnedRegionListProdNat instRegionVecRegionNat instRegionStringRegionListUInt8 instRegionOptionRegionOption instRegionResultRegionExcept instRegionTupleNilUnit instRegionTupleConsProd instRegionCollapseSequenceOfHasEqv instRegionSliceRegionListProdNat instRegionConsecPairsNatOfDenseRegionOfIdxCont instRegionColumnsRegionListNat instRegionRegionListUInt8ProdNat instRegionContainerListNatProd instRegionHuffU8ListUInt8ProdNat instRegionFlatStackNat
example : (RDesc.mirror .f64).aux = (inferInstance : RegionAux (MirrorRegion F64)) := rfl
example : (RDesc.mirror .f64).heapInv = (inferInstance : HeapInv (MirrorRegion F64)) := rfl
example : (RDesc.mirror .f64).stored = (inferInstance : Stored (MirrorRegion F64)) := rfl
example : (RDesc.mirror .f64).Uncoded := by decide
example : (RDesc.mirror .f64).ser (by decide) = (inferInstance : Ser (MirrorRegion F64)) := rfl
example : (RDesc.mirror .f64).sized (by decide) = (inferInstance : Sized (MirrorRegion F64)) := rfl
example : (RDesc.mirror .f64).Reservable := by decide
example : (RDesc.vec .nat).aux = (inferInstance : RegionAux (VecRegion Nat)) := rfl
example : (RDesc.vec .nat).heapInv = (inferInstance : HeapInv (VecRegion Nat)) := rfl
example : (RDesc.vec .nat).stored = (inferInstance : Stored (VecRegion Nat)) := rfl
example : (RDesc.vec .nat).Uncoded := by decide
example : (RDesc.vec .nat).ser (by decide) = (inferInstance : Ser (VecRegion Nat)) := rfl
example : (RDesc.vec .nat).sized (by decide) = (inferInstance : Sized (VecRegion Nat)) := rfl
example : (RDesc.vec .nat).Reservable := by decide
example : (RDesc.huffman).aux = (inferInstance : RegionAux (Huff.Container)) := rfl
example : (RDesc.huffman).heapInv = (inferInstance : HeapInv (Huff.Container)) := rfl
example : (RDesc.huffman).stored = (inferInstance : Stored (Huff.Container)) := rfl
example : ¬ (RDesc.huffman).Uncoded := by decide
example : ¬ (RDesc.huffman).Serde := by decide
example : ¬ (RDesc.huffman).VecSized := by decide
example : ¬ (RDesc.huffman).Reservable := by decide
example : (RDesc.collapse (.owned .u8)).aux = (inferInstance : RegionAux (CollapseSequence (OwnedRegion UInt8) (Nat × Nat))) := rfl
example : (RDesc.collapse (.owned .u8)).heapInv = (inferInstance : HeapInv (CollapseSequence (OwnedRegion UInt8) (Nat × Nat))) := rfl
example : (RDesc.collapse (.owned .u8)).stored = (inferInstance : Stored (CollapseSequence (OwnedRegion UInt8) (Nat × Nat))) := rfl
example : (RDesc.collapse (.owned .u8)).Uncoded := by decide
example : (RDesc.collapse (.owned .u8)).ser (by decide) = (inferInstance : Ser (CollapseSequence (OwnedRegion UInt8) (Nat × Nat))) := rfl
example : ¬ (RDesc.collapse (.owned .u8)).VecSized := by decide
example : ¬ (RDesc.collapse (.owned .u8)).Reservable := by decide
example : (RDesc.consec (.string (.owned .u8)) (.vec 8)).aux = (inferInstance : RegionAux (ConsecPairs (StringRegion (OwnedRegion UInt8)) (Capd (VecIdx Nat 8)))) := rfl
example : (RDesc.consec (.string (.owned .u8)) (.vec 8)).heapInv = (inferInstance : HeapInv (ConsecPairs (StringRegion (OwnedRegion UInt8)) (Capd (VecIdx Nat 8)))) := rfl
example : (RDesc.consec (.string (.owned .u8)) (.vec 8)).stored = (inferInstance : Stored (ConsecPairs (StringRegion (OwnedRegion UInt8)) (Capd (VecIdx Nat 8)))) := rfl
example : (RDesc.consec (.string (.owned .u8)) (.vec 8)).Uncoded := by decide
example : (RDesc.consec (.string (.owned .u8)) (.vec 8)).ser (by decide) = (inferInstance : Ser (ConsecPairs (StringRegion (OwnedRegion UInt8)) (Capd (VecIdx Nat 8)))) := rfl
example : ¬ (RDesc.consec (.string (.owned .u8)) (.vec 8)).VecSized := by decide
example : ¬ (RDesc.consec (.string (.owned .u8)) (.vec 8)).Reservable := by decide
example : (RDesc.string (.collapse (.owned .u8))).aux = (inferInstance : RegionAux (StringRegion (CollapseSequence (OwnedRegion UInt8) (Nat × Nat)))) := rfl
example : (RDesc.string (.collapse (.owned .u8))).heapInv = (inferInstance : HeapInv (StringRegion (CollapseSequence (OwnedRegion UInt8) (Nat × Nat)))) := rfl
example : (RDesc.string (.collapse (.owned .u8))).stored = (inferInstance : Stored (StringRegion (CollapseSequence (OwnedRegion UInt8) (Nat × Nat)))) := rfl
example : (RDesc.string (.collapse (.owned .u8))).Uncoded := by decide
example : (RDesc.string (.collapse (.owned .u8))).ser (by decide) = (inferInstance : Ser (StringRegion (CollapseSequence (OwnedRegion UInt8) (Nat × Nat)))) := rfl
example : ¬ (RDesc.string (.collapse (.owned .u8))).VecSized := by decide
example : ¬ (RDesc.string (.collapse (.owned .u8))).Reservable := by decide
example : (RDesc.consec .codec .opt).aux = (inferInstance : RegionAux (ConsecPairs Codec.Region (Capd IndexOptimized))) := rfl
example : (RDesc.consec .codec .opt).heapInv = (inferInstance : HeapInv (ConsecPairs Codec.Region (Capd IndexOptimized))) := rfl
example : (RDesc.consec .codec .opt).stored = (inferInstance : Stored (ConsecPairs Codec.Region (Capd IndexOptimized))) := rfl
example : ¬ (RDesc.consec .codec .opt).Uncoded := by decide
example : ¬ (RDesc.consec .codec .opt).Serde := by decide
example : ¬ (RDesc.consec .codec .opt).VecSized := by decide
example : ¬ (RDesc.consec .codec .opt).Reservable := by decide
example : (RDesc.result (.slice (.mirror .nat) (.vec 1)) (.string (.owned .u8))).aux = (inferInstance : RegionAux (ResultRegion (SliceRegion (MirrorRegion Nat) (Capd (VecIdx Nat 1))) (StringRegion (OwnedRegion UInt8)))) := rfl
example : (RDesc.result (.slice (.mirror .nat) (.vec 1)) (.string (.owned .u8))).heapInv = (inferInstance : HeapInv (ResultRegion (SliceRegion (MirrorRegion Nat) (Capd (VecIdx Nat 1))) (StringRegion (OwnedRegion UInt8)))) := rfl
example : (RDesc.result (.slice (.mirror .nat) (.vec 1)) (.string (.owned .u8))).stored = (inferInstance : Stored (ResultRegion (SliceRegion (MirrorRegion Nat) (Capd (VecIdx Nat 1))) (StringRegion (OwnedRegion UInt8)))) := rfl
example : (RDesc.result (.slice (.mirror .nat) (.vec 1)) (.string (.owned .u8))).Uncoded := by decide
example : (RDesc.result (.slice (.mirror .nat) (.vec 1)) (.string (.owned .u8))).ser (by decide) = (inferInstance : Ser (ResultRegion (SliceRegion (MirrorRegion Nat) (Capd (VecIdx Nat 1))) (StringRegion (OwnedRegion UInt8)))) := rfl
example : (RDesc.result (.slice (.mirror .nat) (.vec 1)) (.string (.owned .u8))).sized (by decide) = (inferInstance : Sized (ResultRegion (SliceRegion (MirrorRegion Nat) (Capd (VecIdx Nat 1))) (StringRegion (OwnedRegion UInt8)))) := rfl
example : (RDesc.result (.slice (.mirror .nat) (.vec 1)) (.string (.owned .u8))).Reservable := by decide
example : (RDesc.tupleCons (.option (.string (.owned .u8))) (.tupleCons (.owned .nat) .tupleNil)).aux = (inferInstance : RegionAux (TupleCons (OptionRegion (StringRegion (OwnedRegion UInt8))) (TupleCons (OwnedRegion Nat) TupleNil))) := rfl
example : (RDesc.tupleCons (.option (.string (.owned .u8))) (.tupleCons (.owned .nat) .tupleNil)).heapInv = (inferInstance : HeapInv (TupleCons (OptionRegion (StringRegion (OwnedRegion UInt8))) (TupleCons (OwnedRegion Nat) TupleNil))) := rfl
example : (RDesc.tupleCons (.option (.string (.owned .u8))) (.tupleCons (.owned .nat) .tupleNil)).stored = (inferInstance : Stored (TupleCons (OptionRegion (StringRegion (OwnedRegion UInt8))) (TupleCons (OwnedRegion Nat) TupleNil))) := rfl
example : (RDesc.tupleCons (.option (.string (.owned .u8))) (.tupleCons (.owned .nat) .tupleNil)).Uncoded := by decide
example : (RDesc.tupleCons (.option (.string (.owned .u8))) (.tupleCons (.owned .nat) .tupleNil)).ser (by decide) = (inferInstance : Ser (TupleCons (OptionRegion (StringRegion (OwnedRegion UInt8))) (TupleCons (OwnedRegion Nat) TupleNil))) := rfl
example : (RDesc.tupleCons (.option (.string (.owned .u8))) (.tupleCons (.owned .nat) .tupleNil)).sized (by decide) = (inferInstance : Sized (TupleCons (OptionRegion (StringRegion (OwnedRegion UInt8))) (TupleCons (OwnedRegion Nat) TupleNil))) := rfl
example : (RDesc.tupleCons (.option (.string (.owned .u8))) (.tupleCons (.owned .nat) .tupleNil)).Reservable := by decide
example : (RDesc.tupleCons (.mirror .nat) (.tupleCons (.mirror .nat) (.tupleCons (.mirror .nat) (.tupleCons (.mirror .nat) (.tupleCons (.mirror .nat) (.tupleCons (.mirror .nat) (.tupleCons (.mirror .nat) (.tupleCons (.mirror .nat) (.tupleCons (.mirror .nat) (.tupleCons (.mirror .nat) (.tupleCons (.mirror .nat) (.tupleCons (.mirror .nat) (.tupleCons (.mirror .nat) (.tupleCons (.mirror .nat) (.tupleCons (.mirror .nat) (.tupleCons (.mirror .nat) .tupleNil)))))))))))))))).aux = (inferInstance : RegionAux (TupleCons (MirrorRegion Nat) (TupleCons (MirrorRegion Nat) (TupleCons (MirrorRegion Nat) (TupleCons (MirrorRegion Nat) (TupleCons (MirrorRegion Nat) (TupleCons (MirrorRegion Nat) (TupleCons (MirrorRegion Nat) (TupleCons (MirrorRegion Nat) (TupleCons (MirrorRegion Nat) (TupleCons (MirrorRegion Nat) (TupleCons (MirrorRegion Nat) (TupleCons (MirrorRegion Nat) (TupleCons (MirrorRegion Nat) (TupleCons (MirrorRegion Nat) (TupleCons (MirrorRegion Nat) (TupleCons (MirrorRegion Nat) TupleNil))))))))))))))))) := rfl
example : (RDesc.tupleCons (.mirror .nat) (.tupleCons (.mirror .nat) (.tupleCons (.mirror .nat) (.tupleCons (.mirror .nat) (.tupleCons (.mirror .nat) (.tupleCons (.mirror .nat) (.tupleCons (.mirror .nat) (.tupleCons (.mirror .nat) (.tupleCons (.mirror .nat) (.tupleCons (.mirror .nat) (.tupleCons (.mirror .nat) (.tupleCons (.mirror .nat) (.tupleCons (.mirror .nat) (.tupleCons (.mirror .nat) (.tupleCons (.mirror .nat) (.tupleCons (.mirror .nat) .tupleNil)))))))))))))))).heapInv = (inferInstance : HeapInv (TupleCons (MirrorRegion Nat) (TupleCons (MirrorRegion Nat) (TupleCons (MirrorRegion Nat) (TupleCons (MirrorRegion Nat) (TupleCons (MirrorRegion Nat) (TupleCons (MirrorRegion Nat) (TupleCons (MirrorRegion Nat) (TupleCons (MirrorRegion Nat) (TupleCons (MirrorRegion Nat) (TupleCons (MirrorRegion Nat) (TupleCons (MirrorRegion Nat) (TupleCons (MirrorRegion Nat) (TupleCons (MirrorRegion Nat) (TupleCons (MirrorRegion Nat) (TupleCons (MirrorRegion Nat) (TupleCons (MirrorRegion Nat) TupleNil))))))))))))))))) := rfl
example : (RDesc.tupleCons (.mirror .nat) (.tupleCons (.mirror .nat) (.tupleCons (.mirror .nat) (.tupleCons (.mirror .nat) (.tupleCons (.mirror .nat) (.tupleCons (.mirror .nat) (.tupleCons (.mirror .nat) (.tupleCons (.mirror .nat) (.tupleCons (.mirror .nat) (.tupleCons (.mirror .nat) (.tupleCons (.mirror .nat) (.tupleCons (.mirror .nat) (.tupleCons (.mirror .nat) (.tupleCons (.mirror .nat) (.tupleCons (.mirror .nat) (.tupleCons (.mirror .nat) .tupleNil)))))))))))))))).stored = (inferInstance : Stored (TupleCons (MirrorRegion Nat) (TupleCons (MirrorRegion Nat) (TupleCons (MirrorRegion Nat) (TupleCons (MirrorRegion Nat) (TupleCons (MirrorRegion Nat) (TupleCons (MirrorRegion Nat) (TupleCons (MirrorRegion Nat) (TupleCons (MirrorRegion Nat) (TupleCons (MirrorRegion Nat) (TupleCons (MirrorRegion Nat) (TupleCons (MirrorRegion Nat) (TupleCons (MirrorRegion Nat) (TupleCons (MirrorRegion Nat) (TupleCons (MirrorRegion Nat) (TupleCons (MirrorRegion Nat) (TupleCons (MirrorRegion Nat) TupleNil))))))))))))))))) := rfl
example : (RDesc.tupleCons (.mirror .nat) (.tupleCons (.mirror .nat) (.tupleCons (.mirror .nat) (.tupleCons (.mirror .nat) (.tupleCons (.mirror .nat) (.tupleCons (.mirror .nat) (.tupleCons (.mirror .nat) (.tupleCons (.mirror .nat) (.tupleCons (.mirror .nat) (.tupleCons (.mirror .nat) (.tupleCons (.mirror .nat) (.tupleCons (.mirror .nat) (.tupleCons (.mirror .nat) (.tupleCons (.mirror .nat) (.tupleCons (.mirror .nat) (.tupleCons (.mirror .nat) .tupleNil)))))))))))))))).Uncoded := by decide
example : (RDesc.tupleCons (.mirror .nat) (.tupleCons (.mirror .nat) (.tupleCons (.mirror .nat) (.tupleCons (.mirror .nat) (.tupleCons (.mirror .nat) (.tupleCons (.mirror .nat) (.tupleCons (.mirror .nat) (.tupleCons (.mirror .nat) (.tupleCons (.mirror .nat) (.tupleCons (.mirror .nat) (.tupleCons (.mirror .nat) (.tupleCons (.mirror .nat) (.tupleCons (.mirror .nat) (.tupleCons (.mirror .nat) (.tupleCons (.mirror .nat) (.tupleCons (.mirror .nat) .tupleNil)))))))))))))))).ser (by decide) = (inferInstance : Ser (TupleCons (MirrorRegion Nat) (TupleCons (MirrorRegion Nat) (TupleCons (MirrorRegion Nat) (TupleCons (MirrorRegion Nat) (TupleCons (MirrorRegion Nat) (TupleCons (MirrorRegion Nat) (TupleCons (MirrorRegion Nat) (TupleCons (MirrorRegion Nat) (TupleCons (MirrorRegion Nat) (TupleCons (MirrorRegion Nat) (TupleCons (MirrorRegion Nat) (TupleCons (MirrorRegion Nat) (TupleCons (MirrorRegion Nat) (TupleCons (MirrorRegion Nat) (TupleCons (MirrorRegion Nat) (TupleCons (MirrorRegion Nat) TupleNil))))))))))))))))) := rfl
example : (RDesc.tupleCons (.mirror .nat) (.tupleCons (.mirror .nat) (.tupleCons (.mirror .nat) (.tupleCons (.mirror .nat) (.tupleCons (.mirror .nat) (.tupleCons (.mirror .nat) (.tupleCons (.mirror .nat) (.tupleCons (.mirror .nat) (.tupleCons (.mirror .nat) (.tupleCons (.mirror .nat) (.tupleCons (.mirror .nat) (.tupleCons (.mirror .nat) (.tupleCons (.mirror .nat) (.tupleCons (.mirror .nat) (.tupleCons (.mirror .nat) (.tupleCons (.mirror .nat) .tupleNil)))))))))))))))).sized (by decide) = (inferInstance : Sized (TupleCons (MirrorRegion Nat) (TupleCons (MirrorRegion Nat) (TupleCons (MirrorRegion Nat) (TupleCons (MirrorRegion Nat) (TupleCons (MirrorRegion Nat) (TupleCons (MirrorRegion Nat) (TupleCons (MirrorRegion Nat) (TupleCons (MirrorRegion Nat) (TupleCons (MirrorRegion Nat) (TupleCons (MirrorRegion Nat) (TupleCons (MirrorRegion Nat) (TupleCons (MirrorRegion Nat) (TupleCons (MirrorRegion Nat) (TupleCons (MirrorRegion Nat) (TupleCons (MirrorRegion Nat) (TupleCons (MirrorRegion Nat) TupleNil))))))))))))))))) := rfl
example : (RDesc.tupleCons (.mirror .nat) (.tupleCons (.mirror .nat) (.tupleCons (.mirror .nat) (.tupleCons (.mirror .nat) (.tupleCons (.mirror .nat) (.tupleCons (.mirror .nat) (.tupleCons (.mirror .nat) (.tupleCons (.mirror .nat) (.tupleCons (.mirror .nat) (.tupleCons (.mirror .nat) (.tupleCons (.mirror .nat) (.tupleCons (.mirror .nat) (.tupleCons (.mirror .nat) (.tupleCons (.mirror .nat) (.tupleCons (.mirror .nat) (.tupleCons (.mirror .nat) .tupleNil)))))))))))))))).Reservable := by decide
example : (RDesc.slice (.slice (.slice (.slice (.slice (.mirror .nat) (.vec 1)) (.vec 16)) (.vec 16)) (.vec 16)) (.vec 16)).aux = (inferInstance : RegionAux (SliceRegion (SliceRegion (SliceRegion (SliceRegion (SliceRegion (MirrorRegion Nat) (Capd (VecIdx Nat 1))) (Capd (VecIdx (Nat × Nat) 16))) (Capd (VecIdx (Nat × Nat) 16))) (Capd (VecIdx (Nat × Nat) 16))) (Capd (VecIdx (Nat × Nat) 16)))) := rfl
example : (RDesc.slice (.slice (.slice (.slice (.slice (.mirror .nat) (.vec 1)) (.vec 16)) (.vec 16)) (.vec 16)) (.vec 16)).heapInv = (inferInstance : HeapInv (SliceRegion (SliceRegion (SliceRegion (SliceRegion (SliceRegion (MirrorRegion Nat) (Capd (VecIdx Nat 1))) (Capd (VecIdx (Nat × Nat) 16))) (Capd (VecIdx (Nat × Nat) 16))) (Capd (VecIdx (Nat × Nat) 16))) (Capd (VecIdx (Nat × Nat) 16)))) := rfl
example : (RDesc.slice (.slice (.slice (.slice (.slice (.mirror .nat) (.vec 1)) (.vec 16)) (.vec 16)) (.vec 16)) (.vec 16)).stored = (inferInstance : Stored (SliceRegion (SliceRegion (SliceRegion (SliceRegion (SliceRegion (MirrorRegion Nat) (Capd (VecIdx Nat 1))) (Capd (VecIdx (Nat × Nat) 16))) (Capd (VecIdx (Nat × Nat) 16))) (Capd (VecIdx (Nat × Nat) 16))) (Capd (VecIdx (Nat × Nat) 16)))) := rfl
example : (RDesc.slice (.slice (.slice (.slice (.slice (.mirror .nat) (.vec 1)) (.vec 16)) (.vec 16)) (.vec 16)) (.vec 16)).Uncoded := by decide
example : (RDesc.slice (.slice (.slice (.slice (.slice (.mirror .nat) (.vec 1)) (.vec 16)) (.vec 16)) (.vec 16)) (.vec 16)).ser (by decide) = (inferInstance : Ser (SliceRegion (SliceRegion (SliceRegion (SliceRegion (SliceRegion (MirrorRegion Nat) (Capd (VecIdx Nat 1))) (Capd (VecIdx (Nat × Nat) 16))) (Capd (VecIdx (Nat × Nat) 16))) (Capd (VecIdx (Nat × Nat) 16))) (Capd (VecIdx (Nat × Nat) 16)))) := rfl
example : (RDesc.slice (.slice (.slice (.slice (.slice (.mirror .nat) (.vec 1)) (.vec 16)) (.vec 16)) (.vec 16)) (.vec 16)).sized (by decide) = (inferInstance : Sized (SliceRegion (SliceRegion (SliceRegion (SliceRegion (SliceRegion (MirrorRegion Nat) (Capd (VecIdx Nat 1))) (Capd (VecIdx (Nat × Nat) 16))) (Capd (VecIdx (Nat × Nat) 16))) (Capd (VecIdx (Nat × Nat) 16))) (Capd (VecIdx (Nat × Nat) 16)))) := rfl
example : (RDesc.slice (.slice (.slice (.slice (.slice (.mirror .nat) (.vec 1)) (.vec 16)) (.vec 16)) (.vec 16)) (.vec 16)).Reservable := by decide
example : (RDesc.slice (.vec .nat) .opt).aux = (inferInstance : RegionAux (SliceRegion (VecRegion Nat) (Capd IndexOptimized))) := rfl
example : (RDesc.slice (.vec .nat) .opt).heapInv = (inferInstance : HeapInv (SliceRegion (VecRegion Nat) (Capd IndexOptimized))) := rfl
example : (RDesc.slice (.vec .nat) .opt).stored = (inferInstance : Stored (SliceRegion (VecRegion Nat) (Capd IndexOptimized))) := rfl
example : (RDesc.slice (.vec .nat) .opt).Uncoded := by decide
example : (RDesc.slice (.vec .nat) .opt).ser (by decide) = (inferInstance : Ser (SliceRegion (VecRegion Nat) (Capd IndexOptimized))) := rfl
example : ¬ (RDesc.slice (.vec .nat) .opt).VecSized := by decide
example : ¬ (RDesc.slice (.vec .nat) .opt).Reservable := by decide
example : (RDesc.slice .huffmanU8 (.vec 16)).aux = (inferInstance : RegionAux (SliceRegion HuffU8 (Capd (VecIdx (Nat × Nat) 16)))) := rfl
example : (RDesc.slice .huffmanU8 (.vec 16)).heapInv = (inferInstance : HeapInv (SliceRegion HuffU8 (Capd (VecIdx (Nat × Nat) 16)))) := rfl
example : (RDesc.slice .huffmanU8 (.vec 16)).stored = (inferInstance : Stored (SliceRegion HuffU8 (Capd (VecIdx (Nat × Nat) 16)))) := rfl
example : ¬ (RDesc.slice .huffmanU8 (.vec 16)).Uncoded := by decide
example : ¬ (RDesc.slice .huffmanU8 (.vec 16)).Serde := by decide
example : ¬ (RDesc.slice .huffmanU8 (.vec 16)).VecSized := by decide
example : ¬ (RDesc.slice .huffmanU8 (.vec 16)).Reservable := by decide
example : (RDesc.columns (.mirror .nat) .list).aux = (inferInstance : RegionAux (ColumnsRegion (MirrorRegion Nat) Nat (Capd IndexList))) := rfl
example : (RDesc.columns (.mirror .nat) .list).heapInv = (inferInstance : HeapInv (ColumnsRegion (MirrorRegion Nat) Nat (Capd IndexList))) := rfl
example : (RDesc.columns (.mirror .nat) .list).stored = (inferInstance : Stored (ColumnsRegion (MirrorRegion Nat) Nat (Capd IndexList))) := rfl
example : (RDesc.columns (.mirror .nat) .list).Uncoded := by decide
example : (RDesc.columns (.mirror .nat) .list).ser (by decide) = (inferInstance : Ser (ColumnsRegion (MirrorRegion Nat) Nat (Capd IndexList))) := rfl
example : ¬ (RDesc.columns (.mirror .nat) .list).VecSized := by decide
example : ¬ (RDesc.columns (.mirror .nat) .list).Reservable := by decide
example : (RDesc.columns (.collapse (.consec (.string (.owned .u8)) .opt)) .opt).aux = (inferInstance : RegionAux (ColumnsRegion (CollapseSequence (ConsecPairs (StringRegion (OwnedRegion UInt8)) (Capd IndexOptimized)) Nat) Nat (Capd IndexOptimized))) := rfl
example : (RDesc.columns (.collapse (.consec (.string (.owned .u8)) .opt)) .opt).heapInv = (inferInstance : HeapInv (ColumnsRegion (CollapseSequence (ConsecPairs (StringRegion (OwnedRegion UInt8)) (Capd IndexOptimized)) Nat) Nat (Capd IndexOptimized))) := rfl
example : (RDesc.columns (.collapse (.consec (.string (.owned .u8)) .opt)) .opt).stored = (inferInstance : Stored (ColumnsRegion (CollapseSequence (ConsecPairs (StringRegion (OwnedRegion UInt8)) (Capd IndexOptimized)) Nat) Nat (Capd IndexOptimized))) := rfl
example : (RDesc.columns (.collapse (.consec (.string (.owned .u8)) .opt)) .opt).Uncoded := by decide
example : (RDesc.columns (.collapse (.consec (.string (.owned .u8)) .opt)) .opt).ser (by decide) = (inferInstance : Ser (ColumnsRegion (CollapseSequence (ConsecPairs (StringRegion (OwnedRegion UInt8)) (Capd IndexOptimized)) Nat) Nat (Capd IndexOptimized))) := rfl
example : ¬ (RDesc.columns (.collapse (.consec (.string (.owned .u8)) .opt)) .opt).VecSized := by decide
example : ¬ (RDesc.columns (.collapse (.consec (.string (.owned .u8)) .opt)) .opt).Reservable := by decide
example : (RDesc.collapse (.owned .f64)).aux = (inferInstance : RegionAux (CollapseSequence (OwnedRegion F64) (Nat × Nat))) := rfl
example : (RDesc.collapse (.owned .f64)).heapInv = (inferInstance : HeapInv (CollapseSequence (OwnedRegion F64) (Nat × Nat))) := rfl
example : (RDesc.collapse (.owned .f64)).stored = (inferInstance : Stored (CollapseSequence (OwnedRegion F64) (Nat × Nat))) := rfl
example : (RDesc.collapse (.owned .f64)).Uncoded := by decide
example : (RDesc.collapse (.owned .f64)).ser (by decide) = (inferInstance : Ser (CollapseSequence (OwnedRegion F64) (Nat × Nat))) := rfl
example : ¬ (RDesc.collapse (.owned .f64)).VecSized := by decide
example : ¬ (RDesc.collapse (.owned .f64)).Reservable := by decide
example : (RDesc.stack (.mirror .nat) (.vec 1)).aux = (inferInstance : RegionAux (FlatStack (MirrorRegion Nat) (Capd (VecIdx Nat 1)))) := rfl
example : (RDesc.stack (.mirror .nat) (.vec 1)).heapInv = (inferInstance : HeapInv (FlatStack (MirrorRegion Nat) (Capd (VecIdx Nat 1)))) := rfl
example : (RDesc.stack (.mirror .nat) (.vec 1)).stored = (inferInstance : Stored (FlatStack (MirrorRegion Nat) (Capd (VecIdx Nat 1)))) := rfl
example : (RDesc.stack (.mirror .nat) (.vec 1)).Uncoded := by decide
example : (RDesc.stack (.mirror .nat) (.vec 1)).ser (by decide) = (inferInstance : Ser (FlatStack (MirrorRegion Nat) (Capd (VecIdx Nat 1)))) := rfl
example : (RDesc.stack (.mirror .nat) (.vec 1)).sized (by decide) = (inferInstance : Sized (FlatStack (MirrorRegion Nat) (Capd (VecIdx Nat 1)))) := rfl
example : ¬ (RDesc.stack (.mirror .nat) (.vec 1)).Reservable := by decide
example : (RDesc.stack (.mirror .nat) (.vec 16)).aux = (inferInstance : RegionAux (FlatStack (MirrorRegion Nat) (Capd (VecIdx Nat 16)))) := rfl
example : (RDesc.stack (.mirror .nat) (.vec 16)).heapInv = (inferInstance : HeapInv (FlatStack (MirrorRegion Nat) (Capd (VecIdx Nat 16)))) := rfl
example : (RDesc.stack (.mirror .nat) (.vec 16)).stored = (inferInstance : Stored (FlatStack (MirrorRegion Nat) (Capd (VecIdx Nat 16)))) := rfl
example : (RDesc.stack (.mirror .nat) (.vec 16)).Uncoded := by decide
example : (RDesc.stack (.mirror .nat) (.vec 16)).ser (by decide) = (inferInstance : Ser (FlatStack (MirrorRegion Nat) (Capd (VecIdx Nat 16)))) := rfl
example : (RDesc.stack (.mirror .nat) (.vec 16)).sized (by decide) = (inferInstance : Sized (FlatStack (MirrorRegion Nat) (Capd (VecIdx Nat 16)))) := rfl
example : ¬ (RDesc.stack (.mirror .nat) (.vec 16)).Reservable := by decide
example : (RDesc.stack (.owned .u8) (.vec 16)).aux = (inferInstance : RegionAux (FlatStack (OwnedRegion UInt8) (Capd (VecIdx (Nat × Nat) 16)))) := rfl
example : (RDesc.stack (.owned .u8) (.vec 16)).heapInv = (inferInstance : HeapInv (FlatStack (OwnedRegion UInt8) (Capd (VecIdx (Nat × Nat) 16)))) := rfl
example : (RDesc.stack (.owned .u8) (.vec 16)).stored = (inferInstance : Stored (FlatStack (OwnedRegion UInt8) (Capd (VecIdx (Nat × Nat) 16)))) := rfl
example : (RDesc.stack (.owned .u8) (.vec 16)).Uncoded := by decide
example : (RDesc.stack (.owned .u8) (.vec 16)).ser (by decide) = (inferInstance : Ser (FlatStack (OwnedRegion UInt8) (Capd (VecIdx (Nat × Nat) 16)))) := rfl
example : (RDesc.stack (.owned .u8) (.vec 16)).sized (by decide) = (inferInstance : Sized (FlatStack (OwnedRegion UInt8) (Capd (VecIdx (Nat × Nat) 16)))) := rfl
example : ¬ (RDesc.stack (.owned .u8) (.vec 16)).Reservable := by decide
example : (RDesc.stack (.vec .nat) .opt).aux = (inferInstance : RegionAux (FlatStack (VecRegion Nat) (Capd IndexOptimized))) := rfl
example : (RDesc.stack (.vec .nat) .opt).heapInv = (inferInstance : HeapInv (FlatStack (VecRegion Nat) (Capd IndexOptimized))) := rfl
example : (RDesc.stack (.vec .nat) .opt).stored = (inferInstance : Stored (FlatStack (VecRegion Nat) (Capd IndexOptimized))) := rfl
example : (RDesc.stack (.vec .nat) .opt).Uncoded := by decide
example : (RDesc.stack (.vec .nat) .opt).ser (by decide) = (inferInstance : Ser (FlatStack (VecRegion Nat) (Capd IndexOptimized))) := rfl
example : ¬ (RDesc.stack (.vec .nat) .opt).VecSized := by decide
example : ¬ (RDesc.stack (.vec .nat) .opt).Reservable := by decide
example : (RDesc.stack (.vec (.list .u8)) .list).aux = (inferInstance : RegionAux (FlatStack (VecRegion (List UInt8)) (Capd IndexList))) := rfl
example : (RDesc.stack (.vec (.list .u8)) .list).heapInv = (inferInstance : HeapInv (FlatStack (VecRegion (List UInt8)) (Capd IndexList))) := rfl
example : (RDesc.stack (.vec (.list .u8)) .list).stored = (inferInstance : Stored (FlatStack (VecRegion (List UInt8)) (Capd IndexList))) := rfl
example : (RDesc.stack (.vec (.list .u8)) .list).Uncoded := by decide
example : (RDesc.stack (.vec (.list .u8)) .list).ser (by decide) = (inferInstance : Ser (FlatStack (VecRegion (List UInt8)) (Capd IndexList))) := rfl
example : ¬ (RDesc.stack (.vec (.list .u8)) .list).VecSized := by decide
example : ¬ (RDesc.stack (.vec (.list .u8)) .list).Reservable := by decide
example : (RDesc.stack .codec (.vec 16)).aux = (inferInstance : RegionAux (FlatStack Codec.Region (Capd (VecIdx (Nat × Nat) 16)))) := rfl
example : (RDesc.stack .codec (.vec 16)).heapInv = (inferInstance : HeapInv (FlatStack Codec.Region (Capd (VecIdx (Nat × Nat) 16)))) := rfl
example : (RDesc.stack .codec (.vec 16)).stored = (inferInstance : Stored (FlatStack Codec.Region (Capd (VecIdx (Nat × Nat) 16)))) := rfl
example : ¬ (RDesc.stack .codec (.vec 16)).Uncoded := by decide
example : ¬ (RDesc.stack .codec (.vec 16)).Serde := by decide
example : ¬ (RDesc.stack .codec (.vec 16)).VecSized := by decide
example : ¬ (RDesc.stack .codec (.vec 16)).Reservable := by decide
example : (RDesc.stack (.consec (.owned .u8) (.vec 8)) (.vec 8)).aux = (inferInstance : RegionAux (FlatStack (ConsecPairs (OwnedRegion UInt8) (Capd (VecIdx Nat 8))) (Capd (VecIdx Nat 8)))) := rfl
example : (RDesc.stack (.consec (.owned .u8) (.vec 8)) (.vec 8)).heapInv = (inferInstance : HeapInv (FlatStack (ConsecPairs (OwnedRegion UInt8) (Capd (VecIdx Nat 8))) (Capd (VecIdx Nat 8)))) := rfl
example : (RDesc.stack (.consec (.owned .u8) (.vec 8)) (.vec 8)).stored = (inferInstance : Stored (FlatStack (ConsecPairs (OwnedRegion UInt8) (Capd (VecIdx Nat 8))) (Capd (VecIdx Nat 8)))) := rfl
example : (RDesc.stack (.consec (.owned .u8) (.vec 8)) (.vec 8)).Uncoded := by decide
example : (RDesc.stack (.consec (.owned .u8) (.vec 8)) (.vec 8)).ser (by decide) = (inferInstance : Ser (FlatStack (ConsecPairs (OwnedRegion UInt8) (Capd (VecIdx Nat 8))) (Capd (VecIdx Nat 8)))) := rfl
example : ¬ (RDesc.stack (.consec (.owned .u8) (.vec 8)) (.vec 8)).VecSized := by decide
example : ¬ (RDesc.stack (.consec (.owned .u8) (.vec 8)) (.vec 8)).Reservable := by decide
example : (RDesc.stack (.consec (.owned .u8) .opt) .opt).aux = (inferInstance : RegionAux (FlatStack (ConsecPairs (OwnedRegion UInt8) (Capd IndexOptimized)) (Capd IndexOptimized))) := rfl
example : (RDesc.stack (.consec (.owned .u8) .opt) .opt).heapInv = (inferInstance : HeapInv (FlatStack (ConsecPairs (OwnedRegion UInt8) (Capd IndexOptimized)) (Capd IndexOptimized))) := rfl
example : (RDesc.stack (.consec (.owned .u8) .opt) .opt).stored = (inferInstance : Stored (FlatStack (ConsecPairs (OwnedRegion UInt8) (Capd IndexOptimized)) (Capd IndexOptimized))) := rfl
example : (RDesc.stack (.consec (.owned .u8) .opt) .opt).Uncoded := by decide
example : (RDesc.stack (.consec (.owned .u8) .opt) .opt).ser (by decide) = (inferInstance : Ser (FlatStack (ConsecPairs (OwnedRegion UInt8) (Capd IndexOptimized)) (Capd IndexOptimized))) := rfl
example : ¬ (RDesc.stack (.consec (.owned .u8) .opt) .opt).VecSized := by decide
example : ¬ (RDesc.stack (.consec (.owned .u8) .opt) .opt).Reservable := by decide
example : (RDesc.stack (.consec (.owned .u8) .list) .list).aux = (inferInstance : RegionAux (FlatStack (ConsecPairs (OwnedRegion UInt8) (Capd IndexList)) (Capd IndexList))) := rfl
example : (RDesc.stack (.consec (.owned .u8) .list) .list).heapInv = (inferInstance : HeapInv (FlatStack (ConsecPairs (OwnedRegion UInt8) (Capd IndexList)) (Capd IndexList))) := rfl
example : (RDesc.stack (.consec (.owned .u8) .list) .list).stored = (inferInstance : Stored (FlatStack (ConsecPairs (OwnedRegion UInt8) (Capd IndexList)) (Capd IndexList))) := rfl
example : (RDesc.stack (.consec (.owned .u8) .list) .list).Uncoded := by decide
example : (RDesc.stack (.consec (.owned .u8) .list) .list).ser (by decide) = (inferInstance : Ser (FlatStack (ConsecPairs (OwnedRegion UInt8) (Capd IndexList)) (Capd IndexList))) := rfl
example : ¬ (RDesc.stack (.consec (.owned .u8) .list) .list).VecSized := by decide
example : ¬ (RDesc.stack (.consec (.owned .u8) .list) .list).Reservable := by decide
example : (RDesc.stack (.consec (.string (.owned .u8)) .opt) (.vec 8)).aux = (inferInstance : RegionAux (FlatStack (ConsecPairs (StringRegion (OwnedRegion UInt8)) (Capd IndexOptimized)) (Capd (VecIdx Nat 8)))) := rfl
example : (RDesc.stack (.consec (.string (.owned .u8)) .opt) (.vec 8)).heapInv = (inferInstance : HeapInv (FlatStack (ConsecPairs (StringRegion (OwnedRegion UInt8)) (Capd IndexOptimized)) (Capd (VecIdx Nat 8)))) := rfl
example : (RDesc.stack (.consec (.string (.owned .u8)) .opt) (.vec 8)).stored = (inferInstance : Stored (FlatStack (ConsecPairs (StringRegion (OwnedRegion UInt8)) (Capd IndexOptimized)) (Capd (VecIdx Nat 8)))) := rfl
example : (RDesc.stack (.consec (.string (.owned .u8)) .opt) (.vec 8)).Uncoded := by decide
example : (RDesc.stack (.consec (.string (.owned .u8)) .opt) (.vec 8)).ser (by decide) = (inferInstance : Ser (FlatStack (ConsecPairs (StringRegion (OwnedRegion UInt8)) (Capd IndexOptimized)) (Capd (VecIdx Nat 8)))) := rfl
example : ¬ (RDesc.stack (.consec (.string (.owned .u8)) .opt) (.vec 8)).VecSized := by decide
example : ¬ (RDesc.stack (.consec (.string (.owned .u8)) .opt) (.vec 8)).Reservable := by decide
example : (RDesc.stack (.consec (.string (.owned .u8)) .list) .opt).aux = (inferInstance : RegionAux (FlatStack (ConsecPairs (StringRegion (OwnedRegion UInt8)) (Capd IndexList)) (Capd IndexOptimized))) := rfl
example : (RDesc.stack (.consec (.string (.owned .u8)) .list) .opt).heapInv = (inferInstance : HeapInv (FlatStack (ConsecPairs (StringRegion (OwnedRegion UInt8)) (Capd IndexList)) (Capd IndexOptimized))) := rfl
example : (RDesc.stack (.consec (.string (.owned .u8)) .list) .opt).stored = (inferInstance : Stored (FlatStack (ConsecPairs (StringRegion (OwnedRegion UInt8)) (Capd IndexList)) (Capd IndexOptimized))) := rfl
example : (RDesc.stack (.consec (.string (.owned .u8)) .list) .opt).Uncoded := by decide
example : (RDesc.stack (.consec (.string (.owned .u8)) .list) .opt).ser (by decide) = (inferInstance : Ser (FlatStack (ConsecPairs (StringRegion (OwnedRegion UInt8)) (Capd IndexList)) (Capd IndexOptimized))) := rfl
example : ¬ (RDesc.stack (.consec (.string (.owned .u8)) .list) .opt).VecSized := by decide
example : ¬ (RDesc.stack (.consec (.string (.owned .u8)) .list) .opt).Reservable := by decide
example : (RDesc.stack (.string (.consec (.owned .u8) .opt)) .list).aux = (inferInstance : RegionAux (FlatStack (StringRegion (ConsecPairs (OwnedRegion UInt8) (Capd IndexOptimized))) (Capd IndexList))) := rfl
example : (RDesc.stack (.string (.consec (.owned .u8) .opt)) .list).heapInv = (inferInstance : HeapInv (FlatStack (StringRegion (ConsecPairs (OwnedRegion UInt8) (Capd IndexOptimized))) (Capd IndexList))) := rfl
example : (RDesc.stack (.string (.consec (.owned .u8) .opt)) .list).stored = (inferInstance : Stored (FlatStack (StringRegion (ConsecPairs (OwnedRegion UInt8) (Capd IndexOptimized))) (Capd IndexList))) := rfl
example : (RDesc.stack (.string (.consec (.owned .u8) .opt)) .list).Uncoded := by decide
example : (RDesc.stack (.string (.consec (.owned .u8) .opt)) .list).ser (by decide) = (inferInstance : Ser (FlatStack (StringRegion (ConsecPairs (OwnedRegion UInt8) (Capd IndexOptimized))) (Capd IndexList))) := rfl
example : ¬ (RDesc.stack (.string (.consec (.owned .u8) .opt)) .list).VecSized := by decide
example : ¬ (RDesc.stack (.string (.consec (.owned .u8) .opt)) .list).Reservable := by decide
example : (RDesc.stack (.collapse (.consec (.string (.owned .u8)) .opt)) .opt).aux = (inferInstance : RegionAux (FlatStack (CollapseSequence (ConsecPairs (StringRegion (OwnedRegion UInt8)) (Capd IndexOptimized)) Nat) (Capd IndexOptimized))) := rfl
example : (RDesc.stack (.collapse (.consec (.string (.owned .u8)) .opt)) .opt).heapInv = (inferInstance : HeapInv (FlatStack (CollapseSequence (ConsecPairs (StringRegion (OwnedRegion UInt8)) (Capd IndexOptimized)) Nat) (Capd IndexOptimized))) := rfl
example : (RDesc.stack (.collapse (.consec (.string (.owned .u8)) .opt)) .opt).stored = (inferInstance : Stored (FlatStack (CollapseSequence (ConsecPairs (StringRegion (OwnedRegion UInt8)) (Capd IndexOptimized)) Nat) (Capd IndexOptimized))) := rfl
example : (RDesc.stack (.collapse (.consec (.string (.owned .u8)) .opt)) .opt).Uncoded := by decide
example : (RDesc.stack (.collapse (.consec (.string (.owned .u8)) .opt)) .opt).ser (by decide) = (inferInstance : Ser (FlatStack (CollapseSequence (ConsecPairs (StringRegion (OwnedRegion UInt8)) (Capd IndexOptimized)) Nat) (Capd IndexOptimized))) := rfl
example : ¬ (RDesc.stack (.collapse (.consec (.string (.owned .u8)) .opt)) .opt).VecSized := by decide
example : ¬ (RDesc.stack (.collapse (.consec (.string (.owned .u8)) .opt)) .opt).Reservable := by decide
example : (RDesc.stack (.consec .huffmanU8 .opt) .list).aux = (inferInstance : RegionAux (FlatStack (ConsecPairs HuffU8 (Capd IndexOptimized)) (Capd IndexList))) := rfl
example : (RDesc.stack (.consec .huffmanU8 .opt) .list).heapInv = (inferInstance : HeapInv (FlatStack (ConsecPairs HuffU8 (Capd IndexOptimized)) (Capd IndexList))) := rfl
example : (RDesc.stack (.consec .huffmanU8 .opt) .list).stored = (inferInstance : Stored (FlatStack (ConsecPairs HuffU8 (Capd IndexOptimized)) (Capd IndexList))) := rfl
example : ¬ (RDesc.stack (.consec .huffmanU8 .opt) .list).Uncoded := by decide
example : ¬ (RDesc.stack (.consec .huffmanU8 .opt) .list).Serde := by decide
example : ¬ (RDesc.stack (.consec .huffmanU8 .opt) .list).VecSized := by decide
example : ¬ (RDesc.stack (.consec .huffmanU8 .opt) .list).Reservable := by decide
example : (RDesc.stack (.option (.string (.owned .u8))) (.vec 24)).aux = (inferInstance : RegionAux (FlatStack (OptionRegion (StringRegion (OwnedRegion UInt8))) (Capd (VecIdx (Option (Nat × Nat)) 24)))) := rfl
example : (RDesc.stack (.option (.string (.owned .u8))) (.vec 24)).heapInv = (inferInstance : HeapInv (FlatStack (OptionRegion (StringRegion (OwnedRegion UInt8))) (Capd (VecIdx (Option (Nat × Nat)) 24)))) := rfl
example : (RDesc.stack (.option (.string (.owned .u8))) (.vec 24)).stored = (inferInstance : Stored (FlatStack (OptionRegion (StringRegion (OwnedRegion UInt8))) (Capd (VecIdx (Option (Nat × Nat)) 24)))) := rfl
example : (RDesc.stack (.option (.string (.owned .u8))) (.vec 24)).Uncoded := by decide
example : (RDesc.stack (.option (.string (.owned .u8))) (.vec 24)).ser (by decide) = (inferInstance : Ser (FlatStack (OptionRegion (StringRegion (OwnedRegion UInt8))) (Capd (VecIdx (Option (Nat × Nat)) 24)))) := rfl
example : (RDesc.stack (.option (.string (.owned .u8))) (.vec 24)).sized (by decide) = (inferInstance : Sized (FlatStack (OptionRegion (StringRegion (OwnedRegion UInt8))) (Capd (VecIdx (Option (Nat × Nat)) 24)))) := rfl
example : ¬ (RDesc.stack (.option (.string (.owned .u8))) (.vec 24)).Reservable := by decide
example : (RDesc.stack (.result (.consec (.string (.owned .u8)) .opt) (.consec (.owned .u8) (.vec 8))) (.vec 16)).aux = (inferInstance : RegionAux (FlatStack (ResultRegion (ConsecPairs (StringRegion (OwnedRegion UInt8)) (Capd IndexOptimized)) (ConsecPairs (OwnedRegion UInt8) (Capd (VecIdx Nat 8)))) (Capd (VecIdx (Except Nat Nat) 16)))) := rfl
example : (RDesc.stack (.result (.consec (.string (.owned .u8)) .opt) (.consec (.owned .u8) (.vec 8))) (.vec 16)).heapInv = (inferInstance : HeapInv (FlatStack (ResultRegion (ConsecPairs (StringRegion (OwnedRegion UInt8)) (Capd IndexOptimized)) (ConsecPairs (OwnedRegion UInt8) (Capd (VecIdx Nat 8)))) (Capd (VecIdx (Except Nat Nat) 16)))) := rfl
example : (RDesc.stack (.result (.consec (.string (.owned .u8)) .opt) (.consec (.owned .u8) (.vec 8))) (.vec 16)).stored = (inferInstance : Stored (FlatStack (ResultRegion (ConsecPairs (StringRegion (OwnedRegion UInt8)) (Capd IndexOptimized)) (ConsecPairs (OwnedRegion UInt8) (Capd (VecIdx Nat 8)))) (Capd (VecIdx (Except Nat Nat) 16)))) := rfl
example : (RDesc.stack (.result (.consec (.string (.owned .u8)) .opt) (.consec (.owned .u8) (.vec 8))) (.vec 16)).Uncoded := by decide
example : (RDesc.stack (.result (.consec (.string (.owned .u8)) .opt) (.consec (.owned .u8) (.vec 8))) (.vec 16)).ser (by decide) = (inferInstance : Ser (FlatStack (ResultRegion (ConsecPairs (StringRegion (OwnedRegion UInt8)) (Capd IndexOptimized)) (ConsecPairs (OwnedRegion UInt8) (Capd (VecIdx Nat 8)))) (Capd (VecIdx (Except Nat Nat) 16)))) := rfl
example : ¬ (RDesc.stack (.result (.consec (.string (.owned .u8)) .opt) (.consec (.owned .u8) (.vec 8))) (.vec 16)).VecSized := by decide
example : ¬ (RDesc.stack (.result (.consec (.string (.owned .u8)) .opt) (.consec (.owned .u8) (.vec 8))) (.vec 16)).Reservable := by decide
example : (RDesc.stack (.tupleCons .huffmanU8 (.tupleCons .codec .tupleNil)) (.vec 32)).aux = (inferInstance : RegionAux (FlatStack (TupleCons HuffU8 (TupleCons Codec.Region TupleNil)) (Capd (VecIdx ((Nat × Nat) × ((Nat × Nat) × Unit)) 32)))) := rfl
example : (RDesc.stack (.tupleCons .huffmanU8 (.tupleCons .codec .tupleNil)) (.vec 32)).heapInv = (inferInstance : HeapInv (FlatStack (TupleCons HuffU8 (TupleCons Codec.Region TupleNil)) (Capd (VecIdx ((Nat × Nat) × ((Nat × Nat) × Unit)) 32)))) := rfl
example : (RDesc.stack (.tupleCons .huffmanU8 (.tupleCons .codec .tupleNil)) (.vec 32)).stored = (inferInstance : Stored (FlatStack (TupleCons HuffU8 (TupleCons Codec.Region TupleNil)) (Capd (VecIdx ((Nat × Nat) × ((Nat × Nat) × Unit)) 32)))) := rfl
example : ¬ (RDesc.stack (.tupleCons .huffmanU8 (.tupleCons .codec .tupleNil)) (.vec 32)).Uncoded := by decide
example : ¬ (RDesc.stack (.tupleCons .huffmanU8 (.tupleCons .codec .tupleNil)) (.vec 32)).Serde := by decide
example : ¬ (RDesc.stack (.tupleCons .huffmanU8 (.tupleCons .codec .tupleNil)) (.vec 32)).VecSized := by decide
example : ¬ (RDesc.stack (.tupleCons .huffmanU8 (.tupleCons .codec .tupleNil)) (.vec 32)).Reservable := by decide
example : (RDesc.stack (.slice (.mirror .nat) (.vec 1)) (.vec 16)).aux = (inferInstance : RegionAux (FlatStack (SliceRegion (MirrorRegion Nat) (Capd (VecIdx Nat 1))) (Capd (VecIdx (Nat × Nat) 16)))) := rfl
example : (RDesc.stack (.slice (.mirror .nat) (.vec 1)) (.vec 16)).heapInv = (inferInstance : HeapInv (FlatStack (SliceRegion (MirrorRegion Nat) (Capd (VecIdx Nat 1))) (Capd (VecIdx (Nat × Nat) 16)))) := rfl
example : (RDesc.stack (.slice (.mirror .nat) (.vec 1)) (.vec 16)).stored = (inferInstance : Stored (FlatStack (SliceRegion (MirrorRegion Nat) (Capd (VecIdx Nat 1))) (Capd (VecIdx (Nat × Nat) 16)))) := rfl
example : (RDesc.stack (.slice (.mirror .nat) (.vec 1)) (.vec 16)).Uncoded := by decide
example : (RDesc.stack (.slice (.mirror .nat) (.vec 1)) (.vec 16)).ser (by decide) = (inferInstance : Ser (FlatStack (SliceRegion (MirrorRegion Nat) (Capd (VecIdx Nat 1))) (Capd (VecIdx (Nat × Nat) 16)))) := rfl
example : (RDesc.stack (.slice (.mirror .nat) (.vec 1)) (.vec 16)).sized (by decide) = (inferInstance : Sized (FlatStack (SliceRegion (MirrorRegion Nat) (Capd (VecIdx Nat 1))) (Capd (VecIdx (Nat × Nat) 16)))) := rfl
example : ¬ (RDesc.stack (.slice (.mirror .nat) (.vec 1)) (.vec 16)).Reservable := by decide
example : (RDesc.stack (.slice (.consec (.string (.owned .u8)) .opt) (.vec 8)) (.vec 16)).aux = (inferInstance : RegionAux (FlatStack (SliceRegion (ConsecPairs (StringRegion (OwnedRegion UInt8)) (Capd IndexOptimized)) (Capd (VecIdx Nat 8))) (Capd (VecIdx (Nat × Nat) 16)))) := rfl
example : (RDesc.stack (.slice (.consec (.string (.owned .u8)) .opt) (.vec 8)) (.vec 16)).heapInv = (inferInstance : HeapInv (FlatStack (SliceRegion (ConsecPairs (StringRegion (OwnedRegion UInt8)) (Capd IndexOptimized)) (Capd (VecIdx Nat 8))) (Capd (VecIdx (Nat × Nat) 16)))) := rfl
example : (RDesc.stack (.slice (.consec (.string (.owned .u8)) .opt) (.vec 8)) (.vec 16)).stored = (inferInstance : Stored (FlatStack (SliceRegion (ConsecPairs (StringRegion (OwnedRegion UInt8)) (Capd IndexOptimized)) (Capd (VecIdx Nat 8))) (Capd (VecIdx (Nat × Nat) 16)))) := rfl
example : (RDesc.stack (.slice (.consec (.string (.owned .u8)) .opt) (.vec 8)) (.vec 16)).Uncoded := by decide
example : (RDesc.stack (.slice (.consec (.string (.owned .u8)) .opt) (.vec 8)) (.vec 16)).ser (by decide) = (inferInstance : Ser (FlatStack (SliceRegion (ConsecPairs (StringRegion (OwnedRegion UInt8)) (Capd IndexOptimized)) (Capd (VecIdx Nat 8))) (Capd (VecIdx (Nat × Nat) 16)))) := rfl
example : ¬ (RDesc.stack (.slice (.consec (.string (.owned .u8)) .opt) (.vec 8)) (.vec 16)).VecSized := by decide
example : ¬ (RDesc.stack (.slice (.consec (.string (.owned .u8)) .opt) (.vec 8)) (.vec 16)).Reservable := by decide
example : (RDesc.stack (.slice (.mirror .nat) .opt) (.vec 16)).aux = (inferInstance : RegionAux (FlatStack (SliceRegion (MirrorRegion Nat) (Capd IndexOptimized)) (Capd (VecIdx (Nat × Nat) 16)))) := rfl
example : (RDesc.stack (.slice (.mirror .nat) .opt) (.vec 16)).heapInv = (inferInstance : HeapInv (FlatStack (SliceRegion (MirrorRegion Nat) (Capd IndexOptimized)) (Capd (VecIdx (Nat × Nat) 16)))) := rfl
example : (RDesc.stack (.slice (.mirror .nat) .opt) (.vec 16)).stored = (inferInstance : Stored (FlatStack (SliceRegion (MirrorRegion Nat) (Capd IndexOptimized)) (Capd (VecIdx (Nat × Nat) 16)))) := rfl
example : (RDesc.stack (.slice (.mirror .nat) .opt) (.vec 16)).Uncoded := by decide
example : (RDesc.stack (.slice (.mirror .nat) .opt) (.vec 16)).ser (by decide) = (inferInstance : Ser (FlatStack (SliceRegion (MirrorRegion Nat) (Capd IndexOptimized)) (Capd (VecIdx (Nat × Nat) 16)))) := rfl
example : ¬ (RDesc.stack (.slice (.mirror .nat) .opt) (.vec 16)).VecSized := by decide
example : ¬ (RDesc.stack (.slice (.mirror .nat) .opt) (.vec 16)).Reservable := by decide
example : (RDesc.stack (.slice (.tupleCons (.string (.owned .u8)) .tupleNil) (.vec 16)) (.vec 16)).aux = (inferInstance : RegionAux (FlatStack (SliceRegion (TupleCons (StringRegion (OwnedRegion UInt8)) TupleNil) (Capd (VecIdx ((Nat × Nat) × Unit) 16))) (Capd (VecIdx (Nat × Nat) 16)))) := rfl
example : (RDesc.stack (.slice (.tupleCons (.string (.owned .u8)) .tupleNil) (.vec 16)) (.vec 16)).heapInv = (inferInstance : HeapInv (FlatStack (SliceRegion (TupleCons (StringRegion (OwnedRegion UInt8)) TupleNil) (Capd (VecIdx ((Nat × Nat) × Unit) 16))) (Capd (VecIdx (Nat × Nat) 16)))) := rfl
example : (RDesc.stack (.slice (.tupleCons (.string (.owned .u8)) .tupleNil) (.vec 16)) (.vec 16)).stored = (inferInstance : Stored (FlatStack (SliceRegion (TupleCons (StringRegion (OwnedRegion UInt8)) TupleNil) (Capd (VecIdx ((Nat × Nat) × Unit) 16))) (Capd (VecIdx (Nat × Nat) 16)))) := rfl
example : (RDesc.stack (.slice (.tupleCons (.string (.owned .u8)) .tupleNil) (.vec 16)) (.vec 16)).Uncoded := by decide
example : (RDesc.stack (.slice (.tupleCons (.string (.owned .u8)) .tupleNil) (.vec 16)) (.vec 16)).ser (by decide) = (inferInstance : Ser (FlatStack (SliceRegion (TupleCons (StringRegion (OwnedRegion UInt8)) TupleNil) (Capd (VecIdx ((Nat × Nat) × Unit) 16))) (Capd (VecIdx (Nat × Nat) 16)))) := rfl
example : (RDesc.stack (.slice (.tupleCons (.string (.owned .u8)) .tupleNil) (.vec 16)) (.vec 16)).sized (by decide) = (inferInstance : Sized (FlatStack (SliceRegion (TupleCons (StringRegion (OwnedRegion UInt8)) TupleNil) (Capd (VecIdx ((Nat × Nat) × Unit) 16))) (Capd (VecIdx (Nat × Nat) 16)))) := rfl
example : ¬ (RDesc.stack (.slice (.tupleCons (.string (.owned .u8)) .tupleNil) (.vec 16)) (.vec 16)).Reservable := by decide
example : (RDesc.stack (.columns (.mirror .nat) (.vec 8)) (.vec 8)).aux = (inferInstance : RegionAux (FlatStack (ColumnsRegion (MirrorRegion Nat) Nat (Capd (VecIdx Nat 8))) (Capd (VecIdx Nat 8)))) := rfl
example : (RDesc.stack (.columns (.mirror .nat) (.vec 8)) (.vec 8)).heapInv = (inferInstance : HeapInv (FlatStack (ColumnsRegion (MirrorRegion Nat) Nat (Capd (VecIdx Nat 8))) (Capd (VecIdx Nat 8)))) := rfl
example : (RDesc.stack (.columns (.mirror .nat) (.vec 8)) (.vec 8)).stored = (inferInstance : Stored (FlatStack (ColumnsRegion (MirrorRegion Nat) Nat (Capd (VecIdx Nat 8))) (Capd (VecIdx Nat 8)))) := rfl
example : (RDesc.stack (.columns (.mirror .nat) (.vec 8)) (.vec 8)).Uncoded := by decide
example : (RDesc.stack (.columns (.mirror .nat) (.vec 8)) (.vec 8)).ser (by decide) = (inferInstance : Ser (FlatStack (ColumnsRegion (MirrorRegion Nat) Nat (Capd (VecIdx Nat 8))) (Capd (VecIdx Nat 8)))) := rfl
example : ¬ (RDesc.stack (.columns (.mirror .nat) (.vec 8)) (.vec 8)).VecSized := by decide
example : ¬ (RDesc.stack (.columns (.mirror .nat) (.vec 8)) (.vec 8)).Reservable := by decide
example : (RDesc.stack (.columns (.mirror .nat) .list) .opt).aux = (inferInstance : RegionAux (FlatStack (ColumnsRegion (MirrorRegion Nat) Nat (Capd IndexList)) (Capd IndexOptimized))) := rfl
example : (RDesc.stack (.columns (.mirror .nat) .list) .opt).heapInv = (inferInstance : HeapInv (FlatStack (ColumnsRegion (MirrorRegion Nat) Nat (Capd IndexList)) (Capd IndexOptimized))) := rfl
example : (RDesc.stack (.columns (.mirror .nat) .list) .opt).stored = (inferInstance : Stored (FlatStack (ColumnsRegion (MirrorRegion Nat) Nat (Capd IndexList)) (Capd IndexOptimized))) := rfl
example : (RDesc.stack (.columns (.mirror .nat) .list) .opt).Uncoded := by decide
example : (RDesc.stack (.columns (.mirror .nat) .list) .opt).ser (by decide) = (inferInstance : Ser (FlatStack (ColumnsRegion (MirrorRegion Nat) Nat (Capd IndexList)) (Capd IndexOptimized))) := rfl
example : ¬ (RDesc.stack (.columns (.mirror .nat) .list) .opt).VecSized := by decide
example : ¬ (RDesc.stack (.columns (.mirror .nat) .list) .opt).Reservable := by decide
example : (RDesc.stack (.columns (.string (.owned .u8)) (.vec 8)) .list).aux = (inferInstance : RegionAux (FlatStack (ColumnsRegion (StringRegion (OwnedRegion UInt8)) (Nat × Nat) (Capd (VecIdx Nat 8))) (Capd IndexList))) := rfl
example : (RDesc.stack (.columns (.string (.owned .u8)) (.vec 8)) .list).heapInv = (inferInstance : HeapInv (FlatStack (ColumnsRegion (StringRegion (OwnedRegion UInt8)) (Nat × Nat) (Capd (VecIdx Nat 8))) (Capd IndexList))) := rfl
example : (RDesc.stack (.columns (.string (.owned .u8)) (.vec 8)) .list).stored = (inferInstance : Stored (FlatStack (ColumnsRegion (StringRegion (OwnedRegion UInt8)) (Nat × Nat) (Capd (VecIdx Nat 8))) (Capd IndexList))) := rfl
example : (RDesc.stack (.columns (.string (.owned .u8)) (.vec 8)) .list).Uncoded := by decide
example : (RDesc.stack (.columns (.string (.owned .u8)) (.vec 8)) .list).ser (by decide) = (inferInstance : Ser (FlatStack (ColumnsRegion (StringRegion (OwnedRegion UInt8)) (Nat × Nat) (Capd (VecIdx Nat 8))) (Capd IndexList))) := rfl
example : ¬ (RDesc.stack (.columns (.string (.owned .u8)) (.vec 8)) .list).VecSized := by decide
example : ¬ (RDesc.stack (.columns (.string (.owned .u8)) (.vec 8)) .list).Reservable := by decide
example : (RDesc.stack (.columns (.consec (.string (.owned .u8)) .opt) .opt) (.vec 8)).aux = (inferInstance : RegionAux (FlatStack (ColumnsRegion (ConsecPairs (StringRegion (OwnedRegion UInt8)) (Capd IndexOptimized)) Nat (Capd IndexOptimized)) (Capd (VecIdx Nat 8)))) := rfl
example : (RDesc.stack (.columns (.consec (.string (.owned .u8)) .opt) .opt) (.vec 8)).heapInv = (inferInstance : HeapInv (FlatStack (ColumnsRegion (ConsecPairs (StringRegion (OwnedRegion UInt8)) (Capd IndexOptimized)) Nat (Capd IndexOptimized)) (Capd (VecIdx Nat 8)))) := rfl
example : (RDesc.stack (.columns (.consec (.string (.owned .u8)) .opt) .opt) (.vec 8)).stored = (inferInstance : Stored (FlatStack (ColumnsRegion (ConsecPairs (StringRegion (OwnedRegion UInt8)) (Capd IndexOptimized)) Nat (Capd IndexOptimized)) (Capd (VecIdx Nat 8)))) := rfl
example : (RDesc.stack (.columns (.consec (.string (.owned .u8)) .opt) .opt) (.vec 8)).Uncoded := by decide
example : (RDesc.stack (.columns (.consec (.string (.owned .u8)) .opt) .opt) (.vec 8)).ser (by decide) = (inferInstance : Ser (FlatStack (ColumnsRegion (ConsecPairs (StringRegion (OwnedRegion UInt8)) (Capd IndexOptimized)) Nat (Capd IndexOptimized)) (Capd (VecIdx Nat 8)))) := rfl
example : ¬ (RDesc.stack (.columns (.consec (.string (.owned .u8)) .opt) .opt) (.vec 8)).VecSized := by decide
example : ¬ (RDesc.stack (.columns (.consec (.string (.owned .u8)) .opt) .opt) (.vec 8)).Reservable := by decide
example : (RDesc.stack (.columns (.collapse (.consec (.string (.owned .u8)) .opt)) .opt) .opt).aux = (inferInstance : RegionAux (FlatStack (ColumnsRegion (CollapseSequence (ConsecPairs (StringRegion (OwnedRegion UInt8)) (Capd IndexOptimized)) Nat) Nat (Capd IndexOptimized)) (Capd IndexOptimized))) := rfl
example : (RDesc.stack (.columns (.collapse (.consec (.string (.owned .u8)) .opt)) .opt) .opt).heapInv = (inferInstance : HeapInv (FlatStack (ColumnsRegion (CollapseSequence (ConsecPairs (StringRegion (OwnedRegion UInt8)) (Capd IndexOptimized)) Nat) Nat (Capd IndexOptimized)) (Capd IndexOptimized))) := rfl
example : (RDesc.stack (.columns (.collapse (.consec (.string (.owned .u8)) .opt)) .opt) .opt).stored = (inferInstance : Stored (FlatStack (ColumnsRegion (CollapseSequence (ConsecPairs (StringRegion (OwnedRegion UInt8)) (Capd IndexOptimized)) Nat) Nat (Capd IndexOptimized)) (Capd IndexOptimized))) := rfl
example : (RDesc.stack (.columns (.collapse (.consec (.string (.owned .u8)) .opt)) .opt) .opt).Uncoded := by decide
example : (RDesc.stack (.columns (.collapse (.consec (.string (.owned .u8)) .opt)) .opt) .opt).ser (by decide) = (inferInstance : Ser (FlatStack (ColumnsRegion (CollapseSequence (ConsecPairs (StringRegion (OwnedRegion UInt8)) (Capd IndexOptimized)) Nat) Nat (Capd IndexOptimized)) (Capd IndexOptimized))) := rfl
example : ¬ (RDesc.stack (.columns (.collapse (.consec (.string (.owned .u8)) .opt)) .opt) .opt).VecSized := by decide
example : ¬ (RDesc.stack (.columns (.collapse (.consec (.string (.owned .u8)) .opt)) .opt) .opt).Reservable := by decide
example : (RDesc.stack (.consec (.slice (.collapse (.string (.owned .u8))) (.vec 16)) (.vec 8)) .list).aux = (inferInstance : RegionAux (FlatStack (ConsecPairs (SliceRegion (CollapseSequence (StringRegion (OwnedRegion UInt8)) (Nat × Nat)) (Capd (VecIdx (Nat × Nat) 16))) (Capd (VecIdx Nat 8))) (Capd IndexList))) := rfl
example : (RDesc.stack (.consec (.slice (.collapse (.string (.owned .u8))) (.vec 16)) (.vec 8)) .list).heapInv = (inferInstance : HeapInv (FlatStack (ConsecPairs (SliceRegion (CollapseSequence (StringRegion (OwnedRegion UInt8)) (Nat × Nat)) (Capd (VecIdx (Nat × Nat) 16))) (Capd (VecIdx Nat 8))) (Capd IndexList))) := rfl
example : (RDesc.stack (.consec (.slice (.collapse (.string (.owned .u8))) (.vec 16)) (.vec 8)) .list).stored = (inferInstance : Stored (FlatStack (ConsecPairs (SliceRegion (CollapseSequence (StringRegion (OwnedRegion UInt8)) (Nat × Nat)) (Capd (VecIdx (Nat × Nat) 16))) (Capd (VecIdx Nat 8))) (Capd IndexList))) := rfl
example : (RDesc.stack (.consec (.slice (.collapse (.string (.owned .u8))) (.vec 16)) (.vec 8)) .list).Uncoded := by decide
example : (RDesc.stack (.consec (.slice (.collapse (.string (.owned .u8))) (.vec 16)) (.vec 8)) .list).ser (by decide) = (inferInstance : Ser (FlatStack (ConsecPairs (SliceRegion (CollapseSequence (StringRegion (OwnedRegion UInt8)) (Nat × Nat)) (Capd (VecIdx (Nat × Nat) 16))) (Capd (VecIdx Nat 8))) (Capd IndexList))) := rfl
example : ¬ (RDesc.stack (.consec (.slice (.collapse (.string (.owned .u8))) (.vec 16)) (.vec 8)) .list).VecSized := by decide
example : ¬ (RDesc.stack (.consec (.slice (.collapse (.string (.owned .u8))) (.vec 16)) (.vec 8)) .list).Reservable := by decide
example : (RDesc.stack (.slice (.string (.consec (.owned .u8) .list)) .list) (.vec 16)).aux = (inferInstance : RegionAux (FlatStack (SliceRegion (StringRegion (ConsecPairs (OwnedRegion UInt8) (Capd IndexList))) (Capd IndexList)) (Capd (VecIdx (Nat × Nat) 16)))) := rfl
example : (RDesc.stack (.slice (.string (.consec (.owned .u8) .list)) .list) (.vec 16)).heapInv = (inferInstance : HeapInv (FlatStack (SliceRegion (StringRegion (ConsecPairs (OwnedRegion UInt8) (Capd IndexList))) (Capd IndexList)) (Capd (VecIdx (Nat × Nat) 16)))) := rfl
example : (RDesc.stack (.slice (.string (.consec (.owned .u8) .list)) .list) (.vec 16)).stored = (inferInstance : Stored (FlatStack (SliceRegion (StringRegion (ConsecPairs (OwnedRegion UInt8) (Capd IndexList))) (Capd IndexList)) (Capd (VecIdx (Nat × Nat) 16)))) := rfl
example : (RDesc.stack (.slice (.string (.consec (.owned .u8) .list)) .list) (.vec 16)).Uncoded := by decide
example : (RDesc.stack (.slice (.string (.consec (.owned .u8) .list)) .list) (.vec 16)).ser (by decide) = (inferInstance : Ser (FlatStack (SliceRegion (StringRegion (ConsecPairs (OwnedRegion UInt8) (Capd IndexList))) (Capd IndexList)) (Capd (VecIdx (Nat × Nat) 16)))) := rfl
example : ¬ (RDesc.stack (.slice (.string (.consec (.owned .u8) .list)) .list) (.vec 16)).VecSized := by decide
example : ¬ (RDesc.stack (.slice (.string (.consec (.owned .u8) .list)) .list) (.vec 16)).Reservable := by decide
example : (RDesc.stack (.columns (.columns (.mirror .nat) (.vec 8)) (.vec 8)) .list).aux = (inferInstance : RegionAux (FlatStack (ColumnsRegion (ColumnsRegion (MirrorRegion Nat) Nat (Capd (VecIdx Nat 8))) Nat (Capd (VecIdx Nat 8))) (Capd IndexList))) := rfl
example : (RDesc.stack (.columns (.columns (.mirror .nat) (.vec 8)) (.vec 8)) .list).heapInv = (inferInstance : HeapInv (FlatStack (ColumnsRegion (ColumnsRegion (MirrorRegion Nat) Nat (Capd (VecIdx Nat 8))) Nat (Capd (VecIdx Nat 8))) (Capd IndexList))) := rfl
example : (RDesc.stack (.columns (.columns (.mirror .nat) (.vec 8)) (.vec 8)) .list).stored = (inferInstance : Stored (FlatStack (ColumnsRegion (ColumnsRegion (MirrorRegion Nat) Nat (Capd (VecIdx Nat 8))) Nat (Capd (VecIdx Nat 8))) (Capd IndexList))) := rfl
example : (RDesc.stack (.columns (.columns (.mirror .nat) (.vec 8)) (.vec 8)) .list).Uncoded := by decide
example : (RDesc.stack (.columns (.columns (.mirror .nat) (.vec 8)) (.vec 8)) .list).ser (by decide) = (inferInstance : Ser (FlatStack (ColumnsRegion (ColumnsRegion (MirrorRegion Nat) Nat (Capd (VecIdx Nat 8))) Nat (Capd (VecIdx Nat 8))) (Capd IndexList))) := rfl
example : ¬ (RDesc.stack (.columns (.columns (.mirror .nat) (.vec 8)) (.vec 8)) .list).VecSized := by decide
example : ¬ (RDesc.stack (.columns (.columns (.mirror .nat) (.vec 8)) (.vec 8)) .list).Reservable := by decide
example : (RDesc.stack (.mirror .nat) (.vec 2)).aux = (inferInstance : RegionAux (FlatStack (MirrorRegion Nat) (Capd (VecIdx Nat 2)))) := rfl
example : (RDesc.stack (.mirror .nat) (.vec 2)).heapInv = (inferInstance : HeapInv (FlatStack (MirrorRegion Nat) (Capd (VecIdx Nat 2)))) := rfl
example : (RDesc.stack (.mirror .nat) (.vec 2)).stored = (inferInstance : Stored (FlatStack (MirrorRegion Nat) (Capd (VecIdx Nat 2)))) := rfl
example : (RDesc.stack (.mirror .nat) (.vec 2)).Uncoded := by decide
example : (RDesc.stack (.mirror .nat) (.vec 2)).ser (by decide) = (inferInstance : Ser (FlatStack (MirrorRegion Nat) (Capd (VecIdx Nat 2)))) := rfl
example : (RDesc.stack (.mirror .nat) (.vec 2)).sized (by decide) = (inferInstance : Sized (FlatStack (MirrorRegion Nat) (Capd (VecIdx Nat 2)))) := rfl
example : ¬ (RDesc.stack (.mirror .nat) (.vec 2)).Reservable := by decide
end FC.CoveredUniverseOps
