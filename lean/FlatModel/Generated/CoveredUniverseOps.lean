-- @generated by tools/gen_covered_universe_ops.py from Generated/CoveredUniverse.lean, CoveredOps.lean, CoveredSer.lean, CoveredHeap.lean -- do not edit
import FlatModel.Generated.CoveredUniverseOps1
import FlatModel.Generated.CoveredUniverseOps2
import FlatModel.Generated.CoveredUniverseOps3
import FlatModel.Generated.CoveredUniverseOps4
/-! For every catalogued composition (184 distinct types): with the standard sizes the `RegionAux`, `HeapInv`, `Stored`,
`Ser`, `Sized` instances of the universe are definitionally the ones instance resolution finds for the
catalogued type, and the sub-universe predicates hold for exactly the entries the per-entry files
`CoveredOps` (`LawfulMerge`), `CoveredSer` (`SerClone`), `CoveredHeap` (`LawfulSized`, `LawfulReserve`) cover.
The examples stand in the 4 imported parts, which build side by side. -/
-- 184 types: 156 uncoded, 156 with serde, 50 vector-backed, 23 reservable
