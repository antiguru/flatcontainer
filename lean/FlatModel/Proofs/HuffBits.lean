import FlatModel.Model.HuffSpec
/-! Bit-string specification layer for the Huffman container (C06): lemmas about the functions of
Model/HuffSpec.lean. Numbers ↔ MSB-first bit lists (every shift / mask of the Rust code becomes a list operation),
zero-padded prefixes (`padTake`, `Starts`), and the step equations of `encodeBits` and `walk`. -/
namespace FC.Huff

@[simp] theorem ofBits_nil : ofBits [] = 0 := rfl
@[simp] theorem ofBits_cons (b : Bool) (bs : List Bool) : ofBits (b :: bs) = b.toNat * 2 ^ bs.length + ofBits bs := rfl
@[simp] theorem bitsOfCode_zero (c : Nat) : bitsOfCode 0 c = [] := rfl
theorem bitsOfCode_succ (l c : Nat) : bitsOfCode (l + 1) c = c.testBit l :: bitsOfCode l c := rfl

@[simp] theorem length_bitsOfCode (l c : Nat) : (bitsOfCode l c).length = l := by
  induction l with
  | zero => rfl
  | succ l ih => simp [bitsOfCode_succ, ih]

theorem ofBits_lt (a : List Bool) : ofBits a < 2 ^ a.length := by
  induction a with
  | nil => simp
  | cons b bs ih =>
    simp only [ofBits_cons, List.length_cons, Nat.pow_succ]
    cases b <;> simp <;> omega

theorem ofBits_append (a b : List Bool) : ofBits (a ++ b) = ofBits a * 2 ^ b.length + ofBits b := by
  induction a with
  | nil => simp
  | cons x xs ih =>
    simp only [List.cons_append, ofBits_cons, ih, List.length_append, Nat.pow_add, Nat.add_mul]
    rw [Nat.mul_assoc]; omega

theorem bitsOfCode_congr {l a b : Nat} (h : ∀ i, i < l → a.testBit i = b.testBit i) :
    bitsOfCode l a = bitsOfCode l b := by
  induction l with
  | zero => rfl
  | succ l ih =>
    rw [bitsOfCode_succ, bitsOfCode_succ, h l (by omega), ih (fun i hi => h i (by omega))]

theorem bitsOfCode_mod {l k : Nat} (c : Nat) (h : l ≤ k) : bitsOfCode l (c % 2 ^ k) = bitsOfCode l c := by
  apply bitsOfCode_congr
  intro i hi
  rw [Nat.testBit_mod_two_pow]; simp; omega

theorem bitsOfCode_add (m n c : Nat) : bitsOfCode (m + n) c = bitsOfCode m (c / 2 ^ n) ++ bitsOfCode n c := by
  induction m with
  | zero => simp
  | succ m ih =>
    rw [show m + 1 + n = (m + n) + 1 by omega, bitsOfCode_succ, bitsOfCode_succ, ih, Nat.testBit_div_two_pow]
    rfl

theorem bitsOfCode_snoc (l c : Nat) : bitsOfCode (l + 1) c = bitsOfCode l (c / 2) ++ [c % 2 == 1] := by
  rw [bitsOfCode_add l 1 c, bitsOfCode_succ, Nat.testBit_zero]
  simp only [bitsOfCode_zero, Nat.pow_one]
  cases h : c % 2 == 1 <;> simp_all

/-- `pending << n | code` appends the code's bits -/
theorem bitsOfCode_mul_add (m n a b : Nat) (hb : b < 2 ^ n) :
    bitsOfCode (m + n) (a * 2 ^ n + b) = bitsOfCode m a ++ bitsOfCode n b := by
  rw [bitsOfCode_add]
  have h1 : (a * 2 ^ n + b) / 2 ^ n = a := by
    rw [Nat.mul_comm, Nat.mul_add_div (Nat.two_pow_pos n), Nat.div_eq_of_lt hb]; rfl
  have h2 : bitsOfCode n (a * 2 ^ n + b) = bitsOfCode n b := by
    rw [← bitsOfCode_mod (k := n) _ (Nat.le_refl n), Nat.mul_comm, Nat.mul_add_mod, Nat.mod_eq_of_lt hb]
  rw [h1, h2]

theorem ofBits_bitsOfCode (l c : Nat) : ofBits (bitsOfCode l c) = c % 2 ^ l := by
  induction l with
  | zero => simp [Nat.mod_one]
  | succ l ih =>
    simp only [bitsOfCode_succ, ofBits_cons, ih, length_bitsOfCode]
    have h1 : c % 2 ^ (l + 1) = 2 ^ l * (c / 2 ^ l % 2) + c % 2 ^ l := by
      rw [Nat.pow_succ, Nat.mod_mul]; omega
    rw [h1, Nat.testBit_eq_decide_div_mod_eq]
    rcases Nat.mod_two_eq_zero_or_one (c / 2 ^ l) with h | h <;> simp [h]

theorem ofBits_bitsOfCode_of_lt {l c : Nat} (h : c < 2 ^ l) : ofBits (bitsOfCode l c) = c := by
  rw [ofBits_bitsOfCode, Nat.mod_eq_of_lt h]

theorem bitsOfCode_ofBits (a : List Bool) : bitsOfCode a.length (ofBits a) = a := by
  induction a with
  | nil => rfl
  | cons b bs ih =>
    simp only [List.length_cons, ofBits_cons, bitsOfCode_succ]
    have hlt := ofBits_lt bs
    congr 1
    · rw [Nat.mul_comm, Nat.testBit_two_pow_mul_add _ hlt]
      cases b <;> simp
    · rw [← bitsOfCode_mod (k := bs.length) _ (Nat.le_refl _), Nat.mul_comm, Nat.mul_add_mod,
        Nat.mod_eq_of_lt hlt, ih]

theorem ofBits_inj {a b : List Bool} (hl : a.length = b.length) (h : ofBits a = ofBits b) : a = b := by
  rw [← bitsOfCode_ofBits a, ← bitsOfCode_ofBits b, hl, h]

theorem bitsOfCode_eq_iff {l c : Nat} {a : List Bool} (hc : c < 2 ^ l) :
    bitsOfCode l c = a ↔ (a.length = l ∧ ofBits a = c) := by
  constructor
  · rintro rfl; exact ⟨length_bitsOfCode _ _, ofBits_bitsOfCode_of_lt hc⟩
  · rintro ⟨rfl, rfl⟩; exact bitsOfCode_ofBits a

theorem ofBits_split (a : List Bool) (k : Nat) :
    ofBits a = ofBits (a.take (a.length - k)) * 2 ^ k + ofBits (a.drop (a.length - k)) ∧
      ofBits (a.drop (a.length - k)) < 2 ^ k := by
  by_cases hk : k ≤ a.length
  · have hl : (a.drop (a.length - k)).length = k := by simp; omega
    have h := ofBits_append (a.take (a.length - k)) (a.drop (a.length - k))
    have hlt := ofBits_lt (a.drop (a.length - k))
    rw [List.take_append_drop, hl] at h
    rw [hl] at hlt
    exact ⟨h, hlt⟩
  · rw [show a.length - k = 0 by omega, List.take_zero, List.drop_zero, ofBits_nil, Nat.zero_mul, Nat.zero_add]
    exact ⟨rfl, Nat.lt_of_lt_of_le (ofBits_lt a) (Nat.pow_le_pow_right (by omega) (by omega))⟩

theorem ofBits_div (a : List Bool) (k : Nat) : ofBits a / 2 ^ k = ofBits (a.take (a.length - k)) := by
  obtain ⟨h, hlt⟩ := ofBits_split a k
  rw [h, Nat.mul_comm, Nat.mul_add_div (Nat.two_pow_pos k), Nat.div_eq_of_lt hlt]; rfl

theorem ofBits_mod (a : List Bool) (k : Nat) : ofBits a % 2 ^ k = ofBits (a.drop (a.length - k)) := by
  obtain ⟨h, hlt⟩ := ofBits_split a k
  rw [h, Nat.mul_comm, Nat.mul_add_mod, Nat.mod_eq_of_lt hlt]

theorem ofBits_replicate_false (k : Nat) : ofBits (List.replicate k false) = 0 := by
  induction k with
  | zero => rfl
  | succ k ih => simp [List.replicate_succ, ih]

theorem ofBits_append_zeros (a : List Bool) (k : Nat) : ofBits (a ++ List.replicate k false) = ofBits a * 2 ^ k := by
  rw [ofBits_append, ofBits_replicate_false]; simp

theorem bitsOfCode_zero_code (l : Nat) : bitsOfCode l 0 = List.replicate l false := by
  induction l with
  | zero => rfl
  | succ l ih => simp [bitsOfCode_succ, ih, List.replicate_succ]

theorem bitsOfCode_take {l m c : Nat} (h : m ≤ l) : (bitsOfCode l c).take m = bitsOfCode m (c / 2 ^ (l - m)) := by
  obtain ⟨n, rfl⟩ : ∃ n, l = m + n := ⟨l - m, by omega⟩
  rw [bitsOfCode_add, List.take_left' (by simp), Nat.add_sub_cancel_left]

theorem bitsOfCode_drop {l m c : Nat} (h : m ≤ l) : (bitsOfCode l c).drop m = bitsOfCode (l - m) c := by
  obtain ⟨n, rfl⟩ : ∃ n, l = m + n := ⟨l - m, by omega⟩
  rw [bitsOfCode_add, List.drop_left' (by simp), Nat.add_sub_cancel_left]

theorem shl_add_lt {p b l c : Nat} (hp : p < 2 ^ b) (hc : c < 2 ^ l) : p * 2 ^ l + c < 2 ^ (b + l) := by
  have : (p + 1) * 2 ^ l ≤ 2 ^ b * 2 ^ l := Nat.mul_le_mul_right _ hp
  rw [Nat.pow_add]; rw [Nat.add_mul] at this; omega

theorem shl_lt {p b n : Nat} (hp : p < 2 ^ b) (hb : b ≤ n) : p * 2 ^ (n - b) < 2 ^ n := by
  have := shl_add_lt hp (Nat.two_pow_pos (n - b))
  rw [show b + (n - b) = n by omega] at this; omega

theorem shr_lt {p b k : Nat} (hp : p < 2 ^ b) (hk : k ≤ b) : p / 2 ^ (b - k) < 2 ^ k := by
  apply Nat.div_lt_of_lt_mul
  rwa [← Nat.pow_add, show b - k + k = b by omega]

def padTake (n : Nat) (b : List Bool) : List Bool := (b ++ List.replicate n false).take n

@[simp] theorem length_padTake (n : Nat) (b : List Bool) : (padTake n b).length = n := by simp [padTake]

theorem padTake_add (m n : Nat) (b : List Bool) : padTake (m + n) b = padTake m b ++ padTake n (b.drop m) := by
  induction m generalizing b with
  | zero => simp [padTake]
  | succ m ih =>
    have hs : ∀ (x : Bool) (c : List Bool) k, padTake (k + 1) (x :: c) = x :: padTake k c := by
      intro x c k; simp [padTake, List.replicate_succ', List.take_append]
    have hn : ∀ k, padTake (k + 1) [] = false :: padTake k [] := by
      intro k; simp [padTake, List.replicate_succ]
    cases b with
    | nil => have := ih []; simp only [List.drop_nil] at this ⊢; rw [show m + 1 + n = (m + n) + 1 by omega, hn, hn, this]; rfl
    | cons x b => rw [show m + 1 + n = (m + n) + 1 by omega, hs, hs, ih]; rfl

theorem padTake_prefix {l k : Nat} (b : List Bool) (h : l ≤ k) : padTake l b <+: padTake k b := by
  obtain ⟨j, rfl⟩ : ∃ j, k = l + j := ⟨k - l, by omega⟩
  rw [padTake_add]; exact List.prefix_append _ _

theorem padTake_append_left (w tail : List Bool) : padTake w.length (w ++ tail) = w := by
  rw [padTake, List.append_assoc, List.take_left' rfl]

theorem padTake_of_le {n : Nat} {b : List Bool} (h : n ≤ b.length) : padTake n b = b.take n := by
  rw [padTake, List.take_append_of_le_length h]

def Starts (w b : List Bool) : Prop := padTake w.length b = w

theorem starts_append (w tail : List Bool) : Starts w (w ++ tail) := padTake_append_left w tail

theorem Starts.prefix {w b : List Bool} (h : Starts w b) : w <+: b ++ List.replicate w.length false := by
  rw [← h, length_padTake]; exact List.take_prefix _ _

theorem Starts.prefix_of_le {w w' b : List Bool} (h : Starts w b) (h' : Starts w' b) (hl : w.length ≤ w'.length) :
    w <+: w' :=
  h ▸ h' ▸ padTake_prefix b hl

theorem starts_short {w b : List Bool} (h8 : w.length ≤ 8) : Starts w b ↔ w <+: padTake 8 b := by
  obtain ⟨k, hk⟩ : ∃ k, 8 = w.length + k := ⟨8 - w.length, by omega⟩
  rw [hk, padTake_add, Starts]
  constructor
  · intro h; rw [h]; exact List.prefix_append _ _
  · intro h
    exact ((List.prefix_of_prefix_length_le h (List.prefix_append _ _) (by simp)).eq_of_length (by simp)).symm

theorem starts_long {w b : List Bool} (h8 : 8 ≤ w.length) :
    Starts w b ↔ padTake 8 b = w.take 8 ∧ Starts (w.drop 8) (b.drop 8) := by
  have hl : 8 + (w.length - 8) = w.length := by omega
  unfold Starts
  rw [List.length_drop]
  constructor
  · intro h
    have e : padTake 8 b ++ padTake (w.length - 8) (b.drop 8) = w.take 8 ++ w.drop 8 := by
      rw [← padTake_add, hl, h, List.take_append_drop]
    exact List.append_inj e (by simp; omega)
  · rintro ⟨h1, h2⟩
    rw [← hl, padTake_add, h1, h2, List.take_append_drop]

theorem idx8_eq (b : List Bool) : idx8 b = ofBits (padTake 8 b) := rfl
theorem idx8_lt (b : List Bool) : idx8 b < 256 := by
  have := ofBits_lt (padTake 8 b); rwa [length_padTake] at this

theorem idx8_append {w : List Bool} (tail : List Bool) (h : 8 ≤ w.length) : idx8 (w ++ tail) = idx8 w := by
  rw [idx8_eq, idx8_eq, padTake_of_le (by simp; omega), padTake_of_le h, List.take_append_of_le_length h]

theorem take8_pad {w : List Bool} {k : Nat} (h : 8 ≤ w.length + k) :
    (w ++ List.replicate k false).take 8 = padTake 8 w := by
  rw [padTake, List.take_append, List.take_append, List.take_replicate, List.take_replicate]
  congr 2; omega

theorem idx8_short {w : List Bool} (h : w.length ≤ 8) : idx8 w = ofBits w * 2 ^ (8 - w.length) := by
  rw [idx8_eq, ← take8_pad (k := 8 - w.length) (by omega), List.take_of_length_le (by simp; omega), ofBits_append_zeros]

theorem encodeBits_cons_eq_some {c : Code} {s : Nat} {r : List Nat} {R : List Bool} :
    encodeBits c (s :: r) = some R ↔
      ∃ l code R', c.lookup s = some (l, code) ∧ encodeBits c r = some R' ∧ R = bitsOfCode l code ++ R' := by
  simp only [encodeBits, codeOf]
  rcases c.lookup s with _ | ⟨l, code⟩ <;> cases encodeBits c r <;> simp [eq_comm]
  exact ⟨fun h => ⟨l, code, ⟨rfl, rfl⟩, h⟩, fun ⟨_, _, ⟨rfl, rfl⟩, h⟩ => h⟩

theorem encodeBits_cons_eq_none {c : Code} {s : Nat} {r : List Nat} :
    encodeBits c (s :: r) = none ↔ c.lookup s = none ∨ encodeBits c r = none := by
  simp only [encodeBits, codeOf]
  cases c.lookup s <;> cases encodeBits c r <;> simp

theorem walk_succ_eq_some {n : Nat} {m : Array Decode} {b : List Bool} {s l : Nat} :
    walk (n + 1) m b = some (s, l) ↔
      (m[idx8 b]! = .symbol s l ∧ 1 ≤ l ∧ l ≤ 8) ∨
      ∃ t l', m[idx8 b]! = .further t ∧ walk n t (b.drop 8) = some (s, l') ∧ l = l' + 8 := by
  rw [walk]
  cases m[idx8 b]! with
  | void => simp
  | symbol s0 l0 =>
    by_cases h : 1 ≤ l0 ∧ l0 ≤ 8 <;> simp [h]
    · rintro rfl rfl; exact h
    · rintro rfl rfl h1; omega
  | further t =>
    simp only [Option.map_eq_some_iff, Prod.mk.injEq, Prod.exists, reduceCtorEq, false_and, false_or,
      Decode.further.injEq, exists_and_left, exists_eq_left']
    exact ⟨fun ⟨a, l', h, ha, hl⟩ => ⟨l', ha ▸ h, hl.symm⟩, fun ⟨l', h, hl⟩ => ⟨s, l', h, rfl, hl.symm⟩⟩

theorem walk_pos {n : Nat} {m : Array Decode} {b : List Bool} {s l : Nat} (h : walk n m b = some (s, l)) : 1 ≤ l := by
  induction n generalizing m b l with
  | zero => simp [walk] at h
  | succ n ih =>
    rcases walk_succ_eq_some.1 h with ⟨-, h1, -⟩ | ⟨t, l', -, -, rfl⟩
    · exact h1
    · omega

example : bitsOfCode 5 0b10110 = [true, false, true, true, false] := by decide
example : ofBits [true, false, true, true, false] = 22 := by decide

end FC.Huff
