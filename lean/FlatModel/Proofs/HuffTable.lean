import FlatModel.Proofs.HuffDec
/-! `insert_decode` builds the table of a prefix-free family (C06).

The depth `9` of `walk 9`, `WFTab 9` is the fuel of the model's `insertDecode 9`. A code word has at most 64 bits and each
table level consumes 8, so at most 8 levels are entered; the fuel is one more than that, and the theorems hold for it a
fortiori: `walk_ins_self` asks only for `w.length ≤ 8 * n`. -/
namespace FC.Huff

theorem get!_set! (m : Array Decode) (i j : Nat) (v : Decode) :
    (m.set! i v)[j]! = if i = j ∧ i < m.size then v else m[j]! := by
  by_cases h : i = j
  · subst h
    by_cases h2 : i < m.size
    · simp [Array.set!, h2]
    · simp [Array.set!, h2]
  · simp [Array.set!, Array.getElem!_eq_getD, Array.getD_eq_getD_getElem?, h]

theorem size_set! (m : Array Decode) (i : Nat) (v : Decode) : (m.set! i v).size = m.size := by
  simp [Array.set!]

theorem emptyMap_get (i : Nat) : emptyMap[i]! = .void := by
  simp [emptyMap, Array.getElem!_eq_getD, Array.getD_eq_getD_getElem?, Array.getElem?_replicate]
  split <;> rfl

theorem emptyMap_size : emptyMap.size = 256 := by simp [emptyMap]

/-- the `for off in 0..(1 << (8 - bits))` loop -/
def fillBlock (m : Array Decode) (base K : Nat) (v : Decode) : Array Decode :=
  (List.range K).foldl (fun m off => m.set! (base + off) v) m

theorem fillBlock_succ (m : Array Decode) (base K : Nat) (v : Decode) :
    fillBlock m base (K + 1) v = (fillBlock m base K v).set! (base + K) v := by
  simp [fillBlock, List.range_succ, List.foldl_append]

theorem size_fillBlock (m : Array Decode) (base K : Nat) (v : Decode) : (fillBlock m base K v).size = m.size := by
  induction K with
  | zero => rfl
  | succ K ih => rw [fillBlock_succ, size_set!, ih]

theorem get!_fillBlock (m : Array Decode) (base K : Nat) (v : Decode) (j : Nat) :
    (fillBlock m base K v)[j]! = if base ≤ j ∧ j < base + K ∧ j < m.size then v else m[j]! := by
  induction K with
  | zero => rw [if_neg (by omega)]; rfl
  | succ K ih =>
    rw [fillBlock_succ, get!_set!, ih, size_fillBlock]
    by_cases h1 : base + K = j ∧ base + K < m.size
    · rw [if_pos h1, if_pos (by omega)]
    · rw [if_neg h1]
      by_cases h2 : base ≤ j ∧ j < base + K ∧ j < m.size
      · rw [if_pos h2, if_pos (by omega)]
      · rw [if_neg h2, if_neg (by omega)]

theorem range_iff_prefix (w Z : List Bool) (hw : w.length ≤ 8) (hZ : Z.length = 8) :
    (idx8 w ≤ ofBits Z ∧ ofBits Z < idx8 w + 2 ^ (8 - w.length)) ↔ w <+: Z := by
  rw [idx8_short hw]
  constructor
  · rintro ⟨h1, h2⟩
    have hdiv : ofBits Z / 2 ^ (8 - w.length) = ofBits w :=
      Nat.div_eq_of_lt_le h1 (by rw [Nat.add_mul, Nat.one_mul]; exact h2)
    rw [ofBits_div, hZ, show 8 - (8 - w.length) = w.length by omega] at hdiv
    have := ofBits_inj (by simp; omega) hdiv
    rw [List.prefix_iff_eq_take, this]
  · rintro ⟨Y, rfl⟩
    simp only [List.length_append] at hZ
    rw [ofBits_append, show 8 - w.length = Y.length by omega]
    have := ofBits_lt Y
    omega

/-- a code word left-aligned in a `u64` -/
def pad64 (w : List Bool) : List Bool := w ++ List.replicate (64 - w.length) false

def ins (n : Nat) (m : Array Decode) (s : Nat) (w : List Bool) : Array Decode :=
  insertDecode n m s w.length (ofBits (pad64 w))

/-- the nested table at entry `i`: `insertDecode` starts a fresh one unless the entry is `further`. (`insert_decode` in the
crate leaves a `Symbol` entry as it is; for a prefix-free family no word longer than 8 bits meets one.) -/
def subTable (m : Array Decode) (i : Nat) : Array Decode := match m[i]! with | .further t => t | _ => emptyMap

theorem length_pad64 {w : List Bool} (h : w.length ≤ 64) : (pad64 w).length = 64 := by
  simp [pad64]; omega

theorem byte_pad64 {w : List Bool} (h : w.length ≤ 64) : ofBits (pad64 w) / 2 ^ 56 % 256 = idx8 w := by
  rw [ofBits_div, length_pad64 h, show 64 - 56 = 8 by rfl, pad64, take8_pad (by omega), ← idx8_eq,
    Nat.mod_eq_of_lt (idx8_lt w)]

theorem shift_pad64 {w : List Bool} (h8 : 8 ≤ w.length) (h : w.length ≤ 64) :
    ofBits (pad64 w) * 256 % 2 ^ 64 = ofBits (pad64 (w.drop 8)) := by
  rw [show (256 : Nat) = 2 ^ 8 by rfl, ← ofBits_append_zeros, ofBits_mod]
  congr 1
  simp only [List.length_append, length_pad64 h, List.length_replicate]
  rw [show 64 + 8 - 64 = 8 by rfl, pad64, pad64, List.append_assoc, List.drop_append_of_le_length h8,
    List.replicate_append_replicate, List.length_drop]
  congr 2; omega

/-- `code << (64 - level)` is the left-aligned code word -/
theorem shl64_eq_ofBits_pad64 {l code : Nat} (hl : l ≤ 64) (hc : code < 2 ^ l) :
    code * 2 ^ (64 - l) % 2 ^ 64 = ofBits (pad64 (bitsOfCode l code)) := by
  rw [Nat.mod_eq_of_lt (shl_lt hc hl), pad64, ofBits_append_zeros, ofBits_bitsOfCode_of_lt hc, length_bitsOfCode]

theorem ins_zero (m : Array Decode) (s : Nat) (w : List Bool) : ins 0 m s w = m := rfl

theorem ins_short {n : Nat} {m : Array Decode} {s : Nat} {w : List Bool} (h : w.length ≤ 8) :
    ins (n + 1) m s w = fillBlock m (idx8 w) (2 ^ (8 - w.length)) (.symbol s w.length) := by
  rw [ins, insertDecode]
  simp only [h, ↓reduceIte, byte_pad64 (show w.length ≤ 64 by omega)]
  rfl

theorem ins_long {n : Nat} {m : Array Decode} {s : Nat} {w : List Bool} (h8 : 8 < w.length) (h : w.length ≤ 64) :
    ins (n + 1) m s w = m.set! (idx8 w) (.further (ins n (subTable m (idx8 w)) s (w.drop 8))) := by
  rw [ins, insertDecode]
  simp only [show ¬ w.length ≤ 8 by omega, ↓reduceIte, byte_pad64 h, shift_pad64 (by omega) h, ins, List.length_drop]
  rfl

theorem get!_ins_short {n : Nat} {m : Array Decode} {s : Nat} {w Z : List Bool} (hm : m.size = 256)
    (h8 : w.length ≤ 8) (hZ : Z.length = 8) :
    (ins (n + 1) m s w)[ofBits Z]! = if w <+: Z then .symbol s w.length else m[ofBits Z]! := by
  have hlt : ofBits Z < m.size := by rw [hm]; have := ofBits_lt Z; rwa [hZ] at this
  rw [ins_short h8, get!_fillBlock]
  simp only [← range_iff_prefix w Z h8 hZ, hlt, and_true]

theorem get!_ins_long {n : Nat} {m : Array Decode} {s : Nat} {w Z : List Bool} (hm : m.size = 256)
    (h8 : 8 < w.length) (h64 : w.length ≤ 64) (hZ : Z.length = 8) :
    (ins (n + 1) m s w)[ofBits Z]! =
      if Z = w.take 8 then .further (ins n (subTable m (idx8 w)) s (w.drop 8)) else m[ofBits Z]! := by
  have hk : idx8 w = ofBits Z ∧ idx8 w < m.size ↔ Z = w.take 8 := by
    rw [idx8_eq, padTake_of_le (by omega)]
    refine ⟨fun h => (ofBits_inj (by simp; omega) h.1).symm, ?_⟩
    rintro rfl
    exact ⟨rfl, by rw [hm, ← padTake_of_le (by omega), ← idx8_eq]; exact idx8_lt w⟩
  rw [ins_long h8 h64, get!_set!]
  simp only [hk]

theorem walk_ins_short {n : Nat} {m : Array Decode} {s : Nat} {w : List Bool} (b : List Bool) (hm : m.size = 256)
    (h1 : 1 ≤ w.length) (h8 : w.length ≤ 8) :
    walk (n + 1) (ins (n + 1) m s w) b =
      if w <+: padTake 8 b then some (s, w.length) else walk (n + 1) m b := by
  rw [walk, walk, idx8_eq, get!_ins_short hm h8 (length_padTake 8 b)]
  by_cases h : w <+: padTake 8 b
  · simp only [h, ↓reduceIte, h1, h8, and_self]
  · simp only [h, ↓reduceIte]

theorem walk_ins_long {n : Nat} {m : Array Decode} {s : Nat} {w : List Bool} (b : List Bool) (hm : m.size = 256)
    (h8 : 8 < w.length) (h64 : w.length ≤ 64) :
    walk (n + 1) (ins (n + 1) m s w) b =
      if padTake 8 b = w.take 8 then
        (walk n (ins n (subTable m (idx8 w)) s (w.drop 8)) (b.drop 8)).map fun p => (p.1, p.2 + 8)
      else walk (n + 1) m b := by
  rw [walk, walk, idx8_eq, get!_ins_long hm h8 h64 (length_padTake 8 b)]
  by_cases h : padTake 8 b = w.take 8 <;> simp only [h, ↓reduceIte]

theorem walk_empty (n : Nat) (b : List Bool) : walk n emptyMap b = none := by
  cases n with
  | zero => rfl
  | succ n => simp only [walk, emptyMap_get]

theorem walk_subTable (n : Nat) (m : Array Decode) (b : List Bool) :
    (walk n (subTable m (idx8 b)) (b.drop 8)).map (fun p => (p.1, p.2 + 8)) = walk (n + 1) m b ∨
      (walk n (subTable m (idx8 b)) (b.drop 8) = none ∧ ∀ s l, walk (n + 1) m b = some (s, l) → l ≤ 8) := by
  cases hm : m[idx8 b]! <;> simp [walk, subTable, hm, walk_empty]
  exact Or.inr fun _ _ _ h _ e => e ▸ h

def WFTab : Nat → Array Decode → Prop
  | 0, _ => True
  | n + 1, m => m.size = 256 ∧ ∀ (i : Nat) (t : Array Decode), m[i]! = Decode.further t → WFTab n t

theorem wfTab_empty (n : Nat) : WFTab n emptyMap := by
  cases n with
  | zero => trivial
  | succ n => exact ⟨emptyMap_size, fun i t h => (by rw [emptyMap_get] at h; cases h)⟩

theorem wfTab_subTable {n : Nat} {m : Array Decode} (h : WFTab (n + 1) m) (i : Nat) : WFTab n (subTable m i) := by
  unfold subTable
  split
  · rename_i t ht; exact h.2 i t ht
  · exact wfTab_empty n

theorem wfTab_ins {n : Nat} {m : Array Decode} (s : Nat) {w : List Bool} (hw : w.length ≤ 64) (h : WFTab n m) :
    WFTab n (ins n m s w) := by
  induction n generalizing m w with
  | zero => trivial
  | succ n ih =>
    by_cases h8 : w.length ≤ 8
    · rw [ins_short h8]
      refine ⟨by rw [size_fillBlock]; exact h.1, fun i t ht => ?_⟩
      rw [get!_fillBlock] at ht
      split at ht
      · cases ht
      · exact h.2 i t ht
    · rw [ins_long (by omega) hw]
      refine ⟨by rw [size_set!]; exact h.1, fun i t ht => ?_⟩
      rw [get!_set!] at ht
      split at ht
      · cases ht
        exact ih (by simp; omega) (wfTab_subTable h _)
      · exact h.2 i t ht

theorem walk_ins_self {n : Nat} {m : Array Decode} (s : Nat) {w b : List Bool} (hm : WFTab n m)
    (h1 : 1 ≤ w.length) (hn : w.length ≤ 8 * n) (h64 : w.length ≤ 64) (hb : Starts w b) :
    walk n (ins n m s w) b = some (s, w.length) := by
  induction n generalizing m w b with
  | zero => omega
  | succ n ih =>
    by_cases h8 : w.length ≤ 8
    · rw [walk_ins_short b hm.1 h1 h8, if_pos ((starts_short h8).1 hb)]
    · obtain ⟨hk, hd⟩ := (starts_long (by omega)).1 hb
      rw [walk_ins_long b hm.1 (by omega) h64, if_pos hk,
        ih (wfTab_subTable hm _) (by simp; omega) (by simp; omega) (by simp; omega) hd]
      simp; omega

/-- on all other inputs the walk is as before, or fails; it fails only where the table decoded a prefix of `w`
(the `symbol` entry of that word makes way for the nested table that holds `w`) -/
theorem walk_ins_other {n : Nat} {m : Array Decode} (s : Nat) {w b : List Bool} (hm : WFTab n m)
    (h1 : 1 ≤ w.length) (h64 : w.length ≤ 64) (hb : ¬ Starts w b) :
    walk n (ins n m s w) b = walk n m b ∨
      (walk n (ins n m s w) b = none ∧ ∀ s' l, walk n m b = some (s', l) → padTake l b <+: w) := by
  induction n generalizing m w b with
  | zero => exact Or.inl rfl
  | succ n ih =>
    by_cases h8 : w.length ≤ 8
    · rw [walk_ins_short b hm.1 h1 h8, if_neg (mt (starts_short h8).2 hb)]; exact Or.inl rfl
    · rw [walk_ins_long b hm.1 (by omega) h64]
      split
      next hk =>
        have hi : idx8 w = idx8 b := by rw [idx8_eq, idx8_eq, hk, padTake_of_le (by omega)]
        -- a decoded word of at most 8 bits is a prefix of the first byte, which `w` shares
        have hshort : ∀ l, l ≤ 8 → padTake l b <+: w := fun l hl =>
          (padTake_prefix b hl).trans (hk ▸ List.take_prefix 8 w)
        rcases ih (wfTab_subTable hm _) (by simp; omega) (by simp; omega)
          (fun h => hb ((starts_long (by omega)).2 ⟨hk, h⟩)) with h | ⟨h, hpre⟩
        · -- the nested walk is unchanged, but the old entry need not have been a nested table
          rw [h, hi]
          exact (walk_subTable n m b).imp id fun ⟨h', hl⟩ => ⟨by rw [h']; rfl, fun s' l hw => hshort l (hl s' l hw)⟩
        · -- the nested walk broke: what the old table decoded is short, or the first byte and a prefix of `w.drop 8`
          refine Or.inr ⟨by rw [h]; rfl, fun s' l hw => ?_⟩
          rcases walk_succ_eq_some.1 hw with ⟨-, -, hl⟩ | ⟨t, l', hmt, hw', rfl⟩
          · exact hshort l hl
          · rw [subTable, hi, hmt] at hpre
            rw [Nat.add_comm, padTake_add, hk]
            conv => rhs; rw [← List.take_append_drop 8 w]
            exact (List.prefix_append_right_inj _).2 (hpre s' l' hw')
      next => exact Or.inl rfl

def Covers (n : Nat) (m : Array Decode) (w : List Bool) (s : Nat) : Prop :=
  ∀ tail, walk n m (w ++ tail) = some (s, w.length)

theorem ins_self {n : Nat} {m : Array Decode} (s : Nat) {w : List Bool} (hm : WFTab n m)
    (h1 : 1 ≤ w.length) (hn : w.length ≤ 8 * n) (h64 : w.length ≤ 64) : Covers n (ins n m s w) w s :=
  fun tail => walk_ins_self s hm h1 hn h64 (starts_append w tail)

theorem ins_other {n : Nat} {m : Array Decode} (s s' : Nat) {w w' : List Bool} (hm : WFTab n m)
    (h1 : 1 ≤ w.length) (h64 : w.length ≤ 64) (hc : Covers n m w' s')
    (hp1 : ¬ w <+: w') (hp2 : ¬ w' <+: w) : Covers n (ins n m s w) w' s' := by
  intro tail
  have hs' := starts_append w' tail
  -- two words with which the same input starts are prefix-comparable
  have hb : ¬ Starts w (w' ++ tail) := fun hs =>
    (Nat.le_total w.length w'.length).elim (fun hl => hp1 (hs.prefix_of_le hs' hl)) fun hl => hp2 (hs'.prefix_of_le hs hl)
  rcases walk_ins_other s hm h1 h64 hb with h | ⟨-, hpre⟩
  · rw [h, hc tail]
  · exact absurd (padTake_append_left w' tail ▸ hpre _ _ (hc tail)) hp2

def Incomp (a b : List Bool) : Prop := ¬ a <+: b ∧ ¬ b <+: a

instance (a b : List Bool) : Decidable (Incomp a b) := by unfold Incomp; infer_instance

theorem fold_covers (fam : List (Nat × List Bool))
    (hpf : fam.Pairwise fun a b => Incomp a.2 b.2) (hlen : ∀ x ∈ fam, 1 ≤ x.2.length ∧ x.2.length ≤ 64)
    (m : Array Decode) (hm : WFTab 9 m) :
    WFTab 9 (fam.foldl (fun m x => ins 9 m x.1 x.2) m) ∧
    (∀ x ∈ fam, Covers 9 (fam.foldl (fun m x => ins 9 m x.1 x.2) m) x.2 x.1) ∧
    (∀ w s, Covers 9 m w s → (∀ x ∈ fam, Incomp x.2 w) → Covers 9 (fam.foldl (fun m x => ins 9 m x.1 x.2) m) w s) := by
  induction fam generalizing m with
  | nil => exact ⟨hm, fun x hx => (by cases hx), fun w s h _ => h⟩
  | cons x rest ih =>
    rw [List.pairwise_cons] at hpf
    obtain ⟨hx1, hx64⟩ := hlen x (List.mem_cons_self)
    have hm1 : WFTab 9 (ins 9 m x.1 x.2) := wfTab_ins x.1 hx64 hm
    obtain ⟨ih1, ih2, ih3⟩ := ih hpf.2 (fun y hy => hlen y (List.mem_cons_of_mem _ hy)) _ hm1
    refine ⟨ih1, ?_, ?_⟩
    · intro y hy
      rcases List.mem_cons.1 hy with rfl | hy
      · -- `x.2.length ≤ 64 ≤ 8 * 9`
        exact ih3 _ _ (ins_self _ hm hx1 (by omega) hx64) fun z hz => And.symm (hpf.1 z hz)
      · exact ih2 y hy
    · intro w s hc hinc
      apply ih3 w s
      · have := hinc x List.mem_cons_self
        exact ins_other _ _ hm hx1 hx64 hc this.1 this.2
      · intro z hz; exact hinc z (List.mem_cons_of_mem _ hz)

def wordsOf (fam : List (Nat × Nat × Nat)) : List (Nat × List Bool) := fam.map fun x => (x.1, bitsOfCode x.2.1 x.2.2)

theorem foldl_insertDecode_eq (l : List (Nat × Nat × Nat)) (m : Array Decode)
    (h : ∀ x ∈ l, 1 ≤ x.2.1 ∧ x.2.1 ≤ 64 ∧ x.2.2 < 2 ^ x.2.1) :
    l.foldl (fun m x => insertDecode 9 m x.1 x.2.1 (x.2.2 * 2 ^ (64 - x.2.1) % 2 ^ 64)) m =
      (wordsOf l).foldl (fun m x => ins 9 m x.1 x.2) m := by
  induction l generalizing m with
  | nil => rfl
  | cons x r ih =>
    obtain ⟨-, h1, h2⟩ := h x List.mem_cons_self
    simp only [wordsOf, List.foldl_cons, List.map_cons]
    rw [← wordsOf, ← ih _ (fun y hy => h y (List.mem_cons_of_mem _ hy)), ins, shl64_eq_ofBits_pad64 h1 h2, length_bitsOfCode]

theorem length_wordsOf {fam : List (Nat × Nat × Nat)} (h : ∀ x ∈ fam, 1 ≤ x.2.1 ∧ x.2.1 ≤ 64 ∧ x.2.2 < 2 ^ x.2.1) :
    ∀ x ∈ wordsOf fam, 1 ≤ x.2.length ∧ x.2.length ≤ 64 := by
  intro x hx
  obtain ⟨y, hy, rfl⟩ := List.mem_map.1 hx
  simp only [length_bitsOfCode]
  exact ⟨(h y hy).1, (h y hy).2.1⟩

theorem tableOK_of_fold (c : Code) (fam : List (Nat × Nat × Nat))
    (hdec : c.decode = fam.foldl (fun m x => insertDecode 9 m x.1 x.2.1 (x.2.2 * 2 ^ (64 - x.2.1) % 2 ^ 64)) emptyMap)
    (hsub : ∀ e ∈ c.encode, e ∈ fam)
    (hb : ∀ x ∈ fam, 1 ≤ x.2.1 ∧ x.2.1 ≤ 64 ∧ x.2.2 < 2 ^ x.2.1)
    (hpf : fam.Pairwise fun a b => Incomp (bitsOfCode a.2.1 a.2.2) (bitsOfCode b.2.1 b.2.2)) : TableOK c := by
  rw [foldl_insertDecode_eq fam emptyMap hb] at hdec
  obtain ⟨-, hcov, -⟩ := fold_covers (wordsOf fam) (List.pairwise_map.2 hpf) (length_wordsOf hb) emptyMap (wfTab_empty 9)
  intro s l code hl tail
  have := hcov (s, bitsOfCode l code) (List.mem_map.2 ⟨_, hsub _ (Code.mem_of_lookup hl), rfl⟩) tail
  rw [hdec]
  simpa using this

def Code.ofEncode (enc : List (Nat × Nat × Nat)) : Code :=
  ⟨enc, enc.foldl (fun m x => insertDecode 9 m x.1 x.2.1 (x.2.2 * 2 ^ (64 - x.2.1) % 2 ^ 64)) emptyMap⟩

theorem tableOK_ofEncode (enc : List (Nat × Nat × Nat))
    (hb : ∀ x ∈ enc, 1 ≤ x.2.1 ∧ x.2.1 ≤ 64 ∧ x.2.2 < 2 ^ x.2.1)
    (hpf : enc.Pairwise fun a b => Incomp (bitsOfCode a.2.1 a.2.2) (bitsOfCode b.2.1 b.2.2)) :
    TableOK (Code.ofEncode enc) :=
  tableOK_of_fold _ enc rfl (fun _ h => h) hb hpf

/-- the tail of `create_from`, from the sorted `(level, symbol)` list on -/
def finishCode (levels : List (Nat × Nat)) : Code :=
  let levels := match levels with | [(_, s)] => [(1, s)] | l => l
  let enc := assign levels 0 0
  let dec := enc.foldl (fun m (s, bits, code) => insertDecode 9 m s bits (code * 2 ^ (64 - bits) % 2 ^ 64)) emptyMap
  let dec := match levels with | [(_, s)] => insertDecode 9 dec s 1 (2 ^ 63) | _ => dec
  ⟨enc, dec⟩

theorem createFrom_eq (counts : List (Nat × Int)) :
    createFrom counts = if counts.isEmpty then ⟨[], emptyMap⟩ else
      finishCode (sortByLevel (levelsOf (buildTree counts.length (counts.map fun (s, c) => (-c, Node.leaf s)) #[])
        (2 * counts.length + 2) [((buildTree counts.length (counts.map fun (s, c) => (-c, Node.leaf s)) #[]).size - 1, 0)] [])) := rfl

theorem finishCode_decode (L : List (Nat × Nat)) :
    ∃ fam, (∀ e ∈ (finishCode L).encode, e ∈ fam) ∧
      (finishCode L).decode =
        fam.foldl (fun m x => insertDecode 9 m x.1 x.2.1 (x.2.2 * 2 ^ (64 - x.2.1) % 2 ^ 64)) emptyMap ∧
      (fam = (finishCode L).encode ∨
        ∃ s, (finishCode L).encode = [(s, 1, 0)] ∧ fam = [(s, 1, 0), (s, 1, 1)]) := by
  match L with
  | [] =>
    refine ⟨(finishCode []).encode, fun e he => he, ?_, Or.inl rfl⟩
    unfold finishCode; dsimp only
  | [(a, s)] =>
    have henc : (finishCode [(a, s)]).encode = [(s, 1, 0)] := rfl
    refine ⟨[(s, 1, 0), (s, 1, 1)], ?_, ?_, Or.inr ⟨s, henc, rfl⟩⟩
    · intro e he
      rw [henc] at he
      exact List.mem_cons.2 (Or.inl (List.mem_singleton.1 he))
    · unfold finishCode
      dsimp only
      have h1 : assign [(1, s)] 0 0 = [(s, 1, 0)] := rfl
      rw [h1, List.foldl_cons, List.foldl_nil, List.foldl_cons, List.foldl_cons, List.foldl_nil]
      dsimp only
  | x :: y :: r =>
    refine ⟨(finishCode (x :: y :: r)).encode, fun e he => he, ?_, Or.inl rfl⟩
    unfold finishCode; dsimp only

/-- shape of the decode table of `create_from`: a fold of `insert_decode` over the encode list, plus (repair D4)
the complementary one-bit pattern when there is a single symbol -/
theorem createFrom_decode (counts : List (Nat × Int)) :
    ∃ fam, (∀ e ∈ (createFrom counts).encode, e ∈ fam) ∧
      (createFrom counts).decode =
        fam.foldl (fun m x => insertDecode 9 m x.1 x.2.1 (x.2.2 * 2 ^ (64 - x.2.1) % 2 ^ 64)) emptyMap ∧
      (fam = (createFrom counts).encode ∨
        ∃ s, (createFrom counts).encode = [(s, 1, 0)] ∧ fam = [(s, 1, 0), (s, 1, 1)]) := by
  rw [createFrom_eq]
  split
  · exact ⟨[], fun e he => he, rfl, Or.inl rfl⟩
  · exact finishCode_decode _

theorem createFrom_tableOK (counts : List (Nat × Int))
    (hb : ∀ x ∈ (createFrom counts).encode, 1 ≤ x.2.1 ∧ x.2.1 ≤ 64 ∧ x.2.2 < 2 ^ x.2.1)
    (hpf : (createFrom counts).encode.Pairwise fun a b => Incomp (bitsOfCode a.2.1 a.2.2) (bitsOfCode b.2.1 b.2.2)) :
    TableOK (createFrom counts) := by
  obtain ⟨fam, hsub, hdec, rfl | ⟨s, -, rfl⟩⟩ := createFrom_decode counts
  · exact tableOK_of_fold _ _ hdec hsub hb hpf
  · refine tableOK_of_fold _ _ hdec hsub ?_ ?_
    · intro x hx
      simp only [List.mem_cons, List.not_mem_nil, or_false] at hx
      rcases hx with rfl | rfl <;> simp
    · simp only [List.pairwise_cons, List.mem_cons, List.not_mem_nil, or_false, forall_eq, false_imp_iff,
        implies_true, List.Pairwise.nil, and_true]
      decide

/-! ### soundness: nothing is decoded that was not inserted ("uncovered entries stay void")

The converse of `fold_covers`, for any family (prefix-free or not): a successful walk is justified by an inserted code
word. `TableOK`, hence every theorem about `createFrom` and the container, rests on `fold_covers` alone, not on this part. -/

def Sound (n : Nat) (m : Array Decode) (P : Nat → List Bool → Prop) : Prop :=
  ∀ b s l, walk n m b = some (s, l) → ∃ w, P s w ∧ w.length = l ∧ Starts w b

theorem Sound.mono {n : Nat} {m : Array Decode} {P Q : Nat → List Bool → Prop} (h : Sound n m P)
    (hpq : ∀ s w, P s w → Q s w) : Sound n m Q := by
  intro b s l hw
  obtain ⟨w, hp, hl, hk⟩ := h b s l hw
  exact ⟨w, hpq s w hp, hl, hk⟩

theorem sound_ins {n : Nat} {m : Array Decode} {P : Nat → List Bool → Prop} (s : Nat) {w : List Bool}
    (hm : WFTab n m) (hs : Sound n m P) (h1 : 1 ≤ w.length) (hn : w.length ≤ 8 * n) (h64 : w.length ≤ 64) :
    Sound n (ins n m s w) (fun s' w' => P s' w' ∨ (s' = s ∧ w' = w)) := by
  intro b s1 l hw
  by_cases hb : Starts w b
  · rw [walk_ins_self s hm h1 hn h64 hb] at hw
    cases hw
    exact ⟨w, Or.inr ⟨rfl, rfl⟩, rfl, hb⟩
  · rcases walk_ins_other s hm h1 h64 hb with h | ⟨h, -⟩ <;> rw [h] at hw
    · obtain ⟨w', hp, hl, hk⟩ := hs b s1 l hw
      exact ⟨w', Or.inl hp, hl, hk⟩
    · cases hw

theorem sound_fold (fam : List (Nat × List Bool)) (hlen : ∀ x ∈ fam, 1 ≤ x.2.length ∧ x.2.length ≤ 64)
    (m : Array Decode) (P : Nat → List Bool → Prop) (hw : WFTab 9 m) (hm : Sound 9 m P) :
    Sound 9 (fam.foldl (fun m x => ins 9 m x.1 x.2) m) (fun s w => P s w ∨ (s, w) ∈ fam) := by
  induction fam generalizing m P with
  | nil => exact hm.mono fun s w h => Or.inl h
  | cons x rest ih =>
    obtain ⟨h1, h64⟩ := hlen x List.mem_cons_self
    have := ih (fun y hy => hlen y (List.mem_cons_of_mem _ hy)) _ _ (wfTab_ins x.1 h64 hw)
      (sound_ins x.1 hw hm h1 (by omega) h64)
    apply this.mono
    intro s w h
    rcases h with (h | ⟨rfl, rfl⟩) | h
    · exact Or.inl h
    · exact Or.inr List.mem_cons_self
    · exact Or.inr (List.mem_cons_of_mem _ h)

theorem walk_sound (c : Code) (fam : List (Nat × Nat × Nat))
    (hdec : c.decode = fam.foldl (fun m x => insertDecode 9 m x.1 x.2.1 (x.2.2 * 2 ^ (64 - x.2.1) % 2 ^ 64)) emptyMap)
    (hb : ∀ x ∈ fam, 1 ≤ x.2.1 ∧ x.2.1 ≤ 64 ∧ x.2.2 < 2 ^ x.2.1)
    (b : List Bool) (s l : Nat) (hw : walk 9 c.decode b = some (s, l)) :
    ∃ code, (s, l, code) ∈ fam ∧ ∃ k, bitsOfCode l code <+: b ++ List.replicate k false := by
  rw [foldl_insertDecode_eq fam emptyMap hb] at hdec
  have hs := sound_fold (wordsOf fam) (length_wordsOf hb) emptyMap (fun _ _ => False) (wfTab_empty 9)
    (fun b s l h => by rw [walk_empty] at h; cases h)
  rw [← hdec] at hs
  obtain ⟨w, hp | hp, rfl, hk⟩ := hs b s l hw
  · exact hp.elim
  · obtain ⟨⟨s0, l0, c0⟩, hmem, he⟩ := List.mem_map.1 hp
    cases he
    rw [length_bitsOfCode]
    exact ⟨c0, hmem, _, hk.prefix⟩

theorem ins_void {n : Nat} {m : Array Decode} (s : Nat) {w : List Bool} {i : Nat} (hi : i < 256)
    (h64 : w.length ≤ 64) (hv : m[i]! = .void)
    (hnp : ¬ w <+: bitsOfCode 8 i) (hnq : ¬ bitsOfCode 8 i <+: w) : (ins (n + 1) m s w)[i]! = .void := by
  have hZ : ofBits (bitsOfCode 8 i) = i := ofBits_bitsOfCode_of_lt hi
  by_cases h8 : w.length ≤ 8
  · rw [ins_short h8, get!_fillBlock, if_neg, hv]
    rintro ⟨ha, hb, -⟩
    rw [← hZ] at ha hb
    exact hnp ((range_iff_prefix w _ h8 (length_bitsOfCode _ _)).1 ⟨ha, hb⟩)
  · rw [ins_long (by omega) h64, get!_set!, if_neg, hv]
    rintro ⟨ha, -⟩
    rw [idx8_eq, ← hZ, padTake_of_le (by omega)] at ha
    have := ofBits_inj (by simp; omega) ha
    exact hnq (by rw [← this]; exact List.take_prefix _ _)

theorem root_void (fam : List (Nat × List Bool)) (hlen : ∀ x ∈ fam, x.2.length ≤ 64) (i : Nat) (hi : i < 256)
    (hun : ∀ x ∈ fam, ¬ x.2 <+: bitsOfCode 8 i ∧ ¬ bitsOfCode 8 i <+: x.2)
    (m : Array Decode) (hv : m[i]! = .void) :
    (fam.foldl (fun m x => ins 9 m x.1 x.2) m)[i]! = .void := by
  induction fam generalizing m with
  | nil => exact hv
  | cons x rest ih =>
    apply ih (fun y hy => hlen y (List.mem_cons_of_mem _ hy)) (fun y hy => hun y (List.mem_cons_of_mem _ hy))
    have := hun x List.mem_cons_self
    exact ins_void x.1 hi (hlen x List.mem_cons_self) hv this.1 this.2

def walkD : Nat → Array Decode → List Bool → Option (Nat × Nat × Nat)
  | 0, _, _ => none
  | n + 1, m, b =>
    match m[idx8 b]! with
    | .void => none
    | .symbol s l => if 1 ≤ l ∧ l ≤ 8 then some (s, l, 0) else none
    | .further t => (walkD n t (b.drop 8)).map fun q => (q.1, q.2.1, q.2.2 + 1)

theorem walk_depth {n : Nat} {m : Array Decode} {b : List Bool} {s L : Nat} (h : walk n m b = some (s, L)) :
    walkD n m b = some (s, L - 8 * ((L - 1) / 8), (L - 1) / 8) := by
  induction n generalizing m b L with
  | zero => simp [walk] at h
  | succ n ih =>
    rcases walk_succ_eq_some.1 h with ⟨hm, h1, h8⟩ | ⟨t, l', hm, hw, rfl⟩
    · simp only [walkD, hm, h1, h8, and_self, ↓reduceIte, Option.some.injEq, Prod.mk.injEq, true_and]; omega
    · have := walk_pos hw
      simp only [walkD, hm, ih hw, Option.map_some, Option.some.injEq, Prod.mk.injEq, true_and]; omega

end FC.Huff
