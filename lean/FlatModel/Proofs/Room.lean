import FlatModel.Model.Ops
import FlatModel.Proofs.Pointwise
/-! One capacity. The capacities the model computes are `room`s: `MVec.reserve` (hence `push`, `extend`),
each entry of `Capd.fit` and of `Capd.reserve`. What the three bookkeeping developments (`Heap`, `Caps`,
`Grows`) need of the growth policy are the facts about `room` below, which rest on `grow_ge_need` and
`grow_ge_double` alone. (`MVec.cloneFrom` is the one operation not reduced to `room`: its one fact,
`MVec.wf_cloneFrom`, is `grow_ge_need` itself.) -/
namespace FC

/-- capacity of a `Vec` of length `l` and capacity `k` after `reserve(m)` -/
def room (l m k : Nat) : Nat := if l + m ≤ k then k else grow k (l + m)

def cstep (a b : Nat) : Prop := b = a ∨ (2 * a ≤ b ∧ 1 ≤ b)

theorem cstep_refl (a : Nat) : cstep a a := Or.inl rfl
theorem cstep_trans {a b c : Nat} (h1 : cstep a b) (h2 : cstep b c) : cstep a c := by
  unfold cstep at *; omega
theorem cstep_le {a b : Nat} (h : cstep a b) : a ≤ b := by unfold cstep at h; omega

theorem cstep_zero (b : Nat) : cstep 0 b := by unfold cstep; omega

theorem cstep_doubles {a b : Nat} (h : cstep a b) (hne : b ≠ a) : 2 * a ≤ b ∧ 1 ≤ b := h.resolve_left hne

theorem cstep_mul {a b : Nat} (h : cstep a b) (s : Nat) : cstep (a * s) (b * s) := by
  rcases h with rfl | ⟨h1, h2⟩
  · exact cstep_refl _
  · cases s with
    | zero => exact cstep_refl _
    | succ s =>
      refine Or.inr ⟨?_, Nat.mul_pos h2 (Nat.succ_pos s)⟩
      calc 2 * (a * (s + 1)) = (2 * a) * (s + 1) := by rw [Nat.mul_assoc]
        _ ≤ b * (s + 1) := Nat.mul_le_mul_right _ h1

theorem le_room (l m k : Nat) : l + m ≤ room l m k := by
  unfold room
  split
  · assumption
  · exact grow_ge_need _ _

theorem room_fit {l m k : Nat} (h : l + m ≤ k) : room l m k = k := if_pos h

theorem room_step (l m k : Nat) : cstep k (room l m k) := by
  unfold room
  split
  · exact cstep_refl k
  · exact Or.inr ⟨grow_ge_double _ _, Nat.le_trans (by omega) (grow_ge_need _ _)⟩

theorem room_mono (l m k : Nat) : k ≤ room l m k := cstep_le (room_step l m k)

theorem reserve_cap {α : Type} (v : MVec α) (m : Nat) : (v.reserve m).cap = room v.data.length m v.cap := by
  unfold MVec.reserve room
  split <;> rfl

theorem reserve_cap_room {α : Type} (v : MVec α) (k : Nat) : v.data.length + k ≤ (v.reserve k).cap :=
  reserve_cap v k ▸ le_room _ _ _

/-- `Capd.fit` keeps a vector that still holds its `l` elements and otherwise grows it to hold them: entry by
entry a `reserve(0)` at length `l`. (`l + 0` is `l` by definition; `room 0 l c` is the same number but not the
same term.) -/
theorem Capd.fit_eq (caps lens : List Nat) : Capd.fit caps lens = List.zipWith (fun c l => room l 0 c) caps lens := rfl

end FC
