import FlatModel.Model.Huffman
import FlatModel.Proofs.HuffOpt
import FlatModel.Proofs.HuffBits
/-! Canonical code assignment (`sortByLevel`, `assign`): the codes are in range, prefix-free, and the running
code is the scaled partial Kraft sum. -/
namespace FC.Huff
open Opt (PrefixFree)

def LevelSorted (l : List (Nat × Nat)) : Prop := l.Pairwise fun a b => a.1 ≤ b.1

theorem levelSorted_cons {x : Nat × Nat} {L : List (Nat × Nat)} :
    LevelSorted (x :: L) ↔ (∀ y ∈ L, x.1 ≤ y.1) ∧ LevelSorted L := List.pairwise_cons

theorem insertByLevel_perm (x : Nat × Nat) (l : List (Nat × Nat)) : (insertByLevel x l).Perm (x :: l) := by
  induction l with
  | nil => simp [insertByLevel]
  | cons y ys ih =>
    unfold insertByLevel
    split
    · exact List.Perm.refl _
    · exact (List.Perm.cons y ih).trans (List.Perm.swap x y ys)

theorem sortByLevel_perm (l : List (Nat × Nat)) : (sortByLevel l).Perm l := by
  induction l with
  | nil => exact .nil
  | cons x xs ih => exact (insertByLevel_perm x _).trans (List.Perm.cons x ih)

theorem insertByLevel_sorted (x : Nat × Nat) (l : List (Nat × Nat)) (h : LevelSorted l) :
    LevelSorted (insertByLevel x l) := by
  induction l with
  | nil => simp [insertByLevel, LevelSorted]
  | cons y ys ih =>
    obtain ⟨hy, hys⟩ := levelSorted_cons.1 h
    unfold insertByLevel
    split
    · rename_i hxy
      refine levelSorted_cons.2 ⟨List.forall_mem_cons.2 ⟨by omega, fun b hb => ?_⟩, h⟩
      have := hy b hb
      omega
    · rename_i hxy
      refine levelSorted_cons.2 ⟨fun b hb => ?_, ih hys⟩
      rcases List.mem_cons.mp ((insertByLevel_perm x ys).mem_iff.mp hb) with rfl | hb'
      · omega
      · exact hy b hb'

theorem sortByLevel_sorted (l : List (Nat × Nat)) : LevelSorted (sortByLevel l) := by
  induction l with
  | nil => exact List.Pairwise.nil
  | cons x xs ih => exact insertByLevel_sorted x _ ih

/-- Kraft sum of a level list, scaled by 2^M -/
def lsum (M : Nat) (L : List (Nat × Nat)) : Nat := (L.map fun x => 2 ^ (M - x.1)).sum

@[simp] theorem lsum_nil (M : Nat) : lsum M [] = 0 := rfl
@[simp] theorem lsum_cons (M : Nat) (x : Nat × Nat) (L : List (Nat × Nat)) :
    lsum M (x :: L) = 2 ^ (M - x.1) + lsum M L := by simp [lsum]
theorem lsum_perm {M : Nat} {L L' : List (Nat × Nat)} (h : L.Perm L') : lsum M L = lsum M L' := by
  unfold lsum; exact (h.map _).sum_nat

@[simp] theorem assign_nil (code prev : Nat) : assign [] code prev = [] := rfl

theorem assign_cons_of_le (lvl s : Nat) (rest : List (Nat × Nat)) (code prev : Nat) (h : prev ≤ lvl) :
    assign ((lvl, s) :: rest) code prev
      = (s, lvl, code * 2 ^ (lvl - prev)) :: assign rest (code * 2 ^ (lvl - prev) + 1) lvl := by
  rw [assign.eq_2]
  by_cases hp : prev = lvl
  · subst hp; simp
  · simp [hp]

theorem assign_levels (L : List (Nat × Nat)) : ∀ code prev : Nat,
    (assign L code prev).map (fun e => (e.2.1, e.1)) = L := by
  induction L with
  | nil => intro _ _; rfl
  | cons x L ih =>
    intro code prev
    obtain ⟨lvl, s⟩ := x
    rw [assign.eq_2]
    simp only [List.map_cons, ih]

theorem assign_length (L : List (Nat × Nat)) (code prev : Nat) : (assign L code prev).length = L.length := by
  have := congrArg List.length (assign_levels L code prev)
  simpa using this

theorem pow_split {a b c : Nat} (h1 : a ≤ b) (h2 : b ≤ c) : 2 ^ (b - a) * 2 ^ (c - b) = 2 ^ (c - a) := by
  rw [← pow_add]; congr 1; omega

theorem assign_ge (L : List (Nat × Nat)) : ∀ code prev : Nat, LevelSorted L → (∀ x ∈ L, prev ≤ x.1) →
    ∀ e ∈ assign L code prev, prev ≤ e.2.1 ∧ code * 2 ^ (e.2.1 - prev) ≤ e.2.2 := by
  induction L with
  | nil => intro _ _ _ _ e he; simp at he
  | cons x L ih =>
    intro code prev hs hp e he
    obtain ⟨lvl, s⟩ := x
    have hpl : prev ≤ lvl := hp (lvl, s) (by simp)
    rw [assign_cons_of_le lvl s L code prev hpl] at he
    obtain ⟨hlvl, hs⟩ := levelSorted_cons.1 hs
    rcases List.mem_cons.mp he with rfl | he
    · exact ⟨hpl, le_refl _⟩
    · obtain ⟨h1, h2⟩ := ih (code * 2 ^ (lvl - prev) + 1) lvl hs hlvl e he
      refine ⟨by omega, ?_⟩
      calc code * 2 ^ (e.2.1 - prev) = code * (2 ^ (lvl - prev) * 2 ^ (e.2.1 - lvl)) := by rw [pow_split hpl h1]
        _ = code * 2 ^ (lvl - prev) * 2 ^ (e.2.1 - lvl) := by ring
        _ ≤ (code * 2 ^ (lvl - prev) + 1) * 2 ^ (e.2.1 - lvl) := Nat.mul_le_mul_right _ (by omega)
        _ ≤ e.2.2 := h2

/-- the relation between an earlier entry `a` and a later entry `b` of a canonical code -/
def Sep (a b : Nat × Nat × Nat) : Prop := a.2.1 ≤ b.2.1 ∧ (a.2.2 + 1) * 2 ^ (b.2.1 - a.2.1) ≤ b.2.2

theorem assign_pairwise (L : List (Nat × Nat)) : ∀ code prev : Nat, LevelSorted L → (∀ x ∈ L, prev ≤ x.1) →
    (assign L code prev).Pairwise Sep := by
  induction L with
  | nil => intro _ _ _ _; simp
  | cons x L ih =>
    intro code prev hs hp
    obtain ⟨lvl, s⟩ := x
    have hpl : prev ≤ lvl := hp (lvl, s) (by simp)
    rw [assign_cons_of_le lvl s L code prev hpl]
    obtain ⟨hlvl, hs⟩ := levelSorted_cons.1 hs
    exact List.pairwise_cons.2 ⟨assign_ge L _ lvl hs hlvl, ih _ lvl hs hlvl⟩

/-- hypotheses on a (suffix of a) level list: sorted, between `prev` and `M`, Kraft sum fits above `code` -/
structure Pre (M : Nat) (L : List (Nat × Nat)) (code prev : Nat) : Prop where
  sorted : LevelSorted L
  range : ∀ x ∈ L, prev ≤ x.1 ∧ x.1 ≤ M
  kraft : code * 2 ^ (M - prev) + lsum M L ≤ 2 ^ M

theorem assign_code_eq (M : Nat) (L : List (Nat × Nat)) : ∀ (code prev i : Nat) (e : Nat × Nat × Nat),
    LevelSorted L → (∀ x ∈ L, prev ≤ x.1 ∧ x.1 ≤ M) → (assign L code prev)[i]? = some e →
    e.2.2 * 2 ^ (M - e.2.1) = code * 2 ^ (M - prev) + lsum M (L.take i) := by
  induction L with
  | nil => intro _ _ i e _ _ he; simp at he
  | cons x L ih =>
    intro code prev i e hs hr he
    obtain ⟨lvl, s⟩ := x
    have h0 := hr (lvl, s) (by simp)
    rw [assign_cons_of_le lvl s L code prev h0.1] at he
    obtain ⟨hlvl, hs⟩ := levelSorted_cons.1 hs
    cases i with
    | zero =>
      simp only [List.getElem?_cons_zero, Option.some.injEq] at he
      subst he
      simp only [List.take_zero, lsum_nil, Nat.add_zero]
      rw [Nat.mul_assoc, pow_split h0.1 h0.2]
    | succ i =>
      have := ih _ lvl i e hs (fun y hy => ⟨hlvl y hy, (hr y (by simp [hy])).2⟩) he
      rw [this, List.take_succ_cons, lsum_cons]
      have h3 : code * 2 ^ (lvl - prev) * 2 ^ (M - lvl) = code * 2 ^ (M - prev) := by
        rw [Nat.mul_assoc, pow_split h0.1 h0.2]
      calc (code * 2 ^ (lvl - prev) + 1) * 2 ^ (M - lvl) + lsum M (List.take i L)
          = code * 2 ^ (lvl - prev) * 2 ^ (M - lvl) + 2 ^ (M - lvl) + lsum M (List.take i L) := by ring
        _ = code * 2 ^ (M - prev) + (2 ^ (M - (lvl, s).1) + lsum M (List.take i L)) := by rw [h3]; simp [Nat.add_assoc]

theorem assign_getElem?_level (L : List (Nat × Nat)) (code prev i : Nat) (e : Nat × Nat × Nat)
    (he : (assign L code prev)[i]? = some e) : L[i]? = some (e.2.1, e.1) := by
  have h := congrArg (fun l => l[i]?) (assign_levels L code prev)
  simp only [List.getElem?_map, he, Option.map_some] at h
  exact h.symm

/-- entry `i` of the canonical code owns the interval `[Σ_{k<i} 2^(M−lvl_k), Σ_{k≤i} 2^(M−lvl_k))` of the `M`-bit
words: `code_i · 2^(M−lvl_i)` is its start, `(code_i+1) · 2^(M−lvl_i)` its end. Consecutive intervals are adjacent, the
first starts at 0 and the last ends at `lsum M L`; so if the Kraft sum is exactly `2^M` they tile `[0, 2^M)`. -/
theorem assign_interval (M : Nat) (L : List (Nat × Nat)) (hs : LevelSorted L) (hM : ∀ x ∈ L, x.1 ≤ M)
    {i : Nat} {e : Nat × Nat × Nat} (he : (assign L 0 0)[i]? = some e) :
    e.2.2 * 2 ^ (M - e.2.1) = lsum M (L.take i) ∧ (e.2.2 + 1) * 2 ^ (M - e.2.1) = lsum M (L.take (i + 1)) := by
  have h1 := assign_code_eq M L 0 0 i e hs (fun x hx => ⟨Nat.zero_le _, hM x hx⟩) he
  simp only [Nat.zero_mul, Nat.zero_add] at h1
  refine ⟨h1, ?_⟩
  have h2 := assign_getElem?_level L 0 0 i e he
  rw [List.take_add_one, h2, Nat.add_mul, h1]
  simp [lsum]

theorem assign_last_end (M : Nat) (L : List (Nat × Nat)) (hs : LevelSorted L) (hM : ∀ x ∈ L, x.1 ≤ M)
    {e : Nat × Nat × Nat} (he : (assign L 0 0)[L.length - 1]? = some e) :
    (e.2.2 + 1) * 2 ^ (M - e.2.1) = lsum M L := by
  have hlt := (List.getElem?_eq_some_iff.mp he).1
  rw [assign_length] at hlt
  have := (assign_interval M L hs hM he).2
  rwa [List.take_of_length_le (by omega)] at this

theorem lsum_take_le (M : Nat) (L : List (Nat × Nat)) (i : Nat) : lsum M (L.take i) ≤ lsum M L := by
  conv => rhs; rw [← List.take_append_drop i L]
  simp only [lsum, List.map_append, List.sum_append]
  omega

/-- every code fits in its length: its interval ends at a partial Kraft sum, which is at most `2^M` -/
theorem assign_code_lt (M : Nat) (L : List (Nat × Nat)) (h : Pre M L 0 0) :
    ∀ e ∈ assign L 0 0, e.2.2 < 2 ^ e.2.1 := by
  intro e he
  obtain ⟨i, hi⟩ := List.mem_iff_getElem?.mp he
  have hM := fun x hx => (h.range x hx).2
  have hend := (assign_interval M L h.sorted hM hi).2
  have heM : e.2.1 ≤ M := hM (e.2.1, e.1) (List.mem_of_getElem? (assign_getElem?_level L 0 0 i e hi))
  have hk : lsum M L ≤ 2 ^ M := by simpa using h.kraft
  have : (e.2.2 + 1) * 2 ^ (M - e.2.1) ≤ 2 ^ e.2.1 * 2 ^ (M - e.2.1) := by
    rw [hend, ← pow_add, Nat.add_sub_cancel' heM]
    exact le_trans (lsum_take_le M L _) hk
  exact Nat.le_of_mul_le_mul_right this (Nat.two_pow_pos _)

/-- `bitsOfCode` with the recursion at the other end: the last bit is peeled off -/
def canonBits : Nat → Nat → List Bool
  | 0, _ => []
  | l + 1, c => canonBits l (c / 2) ++ [c % 2 == 1]

example : canonBits 3 5 = [true, false, true] := by decide
example : canonBits 3 1 = [false, false, true] := by decide
example : canonBits 2 2 = [true, false] := by decide

theorem canonBits_eq_bitsOfCode (l c : Nat) : canonBits l c = bitsOfCode l c := by
  induction l generalizing c with
  | zero => rfl
  | succ l ih => rw [canonBits, ih, bitsOfCode_snoc]

theorem sep_not_prefix {a b : Nat × Nat × Nat} (hab : Sep a b) (ha : a.2.2 < 2 ^ a.2.1) (hb : b.2.2 < 2 ^ b.2.1) :
    ¬ canonBits a.2.1 a.2.2 <+: canonBits b.2.1 b.2.2 ∧ ¬ canonBits b.2.1 b.2.2 <+: canonBits a.2.1 a.2.2 := by
  obtain ⟨sa, la, ca⟩ := a
  obtain ⟨sb, lb, cb⟩ := b
  obtain ⟨hl, hc⟩ := hab
  simp only [canonBits_eq_bitsOfCode] at hl hc ha hb ⊢
  have key : ¬ bitsOfCode la ca <+: bitsOfCode lb cb := by
    intro hp
    have h1 := List.prefix_iff_eq_take.mp hp
    rw [length_bitsOfCode, bitsOfCode_take hl] at h1
    have := congrArg ofBits h1
    rw [ofBits_bitsOfCode_of_lt ha, ofBits_bitsOfCode_of_lt (shr_lt hb hl)] at this
    have h2 : ca + 1 ≤ cb / 2 ^ (lb - la) := (Nat.le_div_iff_mul_le (Nat.two_pow_pos _)).mpr hc
    omega
  refine ⟨key, ?_⟩
  intro hp
  have hlen := hp.length_le
  simp only [length_bitsOfCode] at hlen
  have : la = lb := by omega
  subst this
  have := List.IsPrefix.eq_of_length hp (by simp)
  exact key (this ▸ List.prefix_refl _)

abbrev codeBits (enc : List (Nat × Nat × Nat)) : List (List Bool) := enc.map fun e => canonBits e.2.1 e.2.2

theorem assign_prefixFree (M : Nat) (L : List (Nat × Nat)) (h : Pre M L 0 0) :
    PrefixFree (codeBits (assign L 0 0)) := by
  unfold PrefixFree codeBits
  rw [List.pairwise_map]
  have hlt := assign_code_lt M L h
  have hpw := assign_pairwise L 0 0 h.sorted (fun x hx => (h.range x hx).1)
  have := List.Pairwise.and_mem.mp hpw
  exact this.imp (fun ⟨ha, hb, hab⟩ => sep_not_prefix hab (hlt _ ha) (hlt _ hb))

theorem assign_div_ne (L : List (Nat × Nat)) (hs : LevelSorted L) :
    (assign L 0 0).Pairwise fun a b => a.2.1 ≤ b.2.1 ∧ b.2.2 / 2 ^ (b.2.1 - a.2.1) ≠ a.2.2 := by
  refine (assign_pairwise L 0 0 hs (fun _ _ => Nat.zero_le _)).imp ?_
  intro a b ⟨hl, hc⟩
  refine ⟨hl, ?_⟩
  have h2 : a.2.2 + 1 ≤ b.2.2 / 2 ^ (b.2.1 - a.2.1) := (Nat.le_div_iff_mul_le (Nat.two_pow_pos _)).mpr hc
  omega

theorem Pre.top {M : Nat} {L : List (Nat × Nat)} (hs : LevelSorted L) (hM : ∀ x ∈ L, x.1 ≤ M) (hk : lsum M L ≤ 2 ^ M) :
    Pre M L 0 0 :=
  ⟨hs, fun x hx => ⟨Nat.zero_le _, hM x hx⟩, by simpa using hk⟩

end FC.Huff
