import FlatModel.Proofs.HuffTree
import FlatModel.Proofs.HuffStats
/-! `createFrom`: what it returns, in terms of the abstract tree built by the greedy run. -/
namespace FC.Huff
open Opt (HuffRel PrefixFree)

def wOf (counts : List (Nat × Int)) (s : Nat) : Nat :=
  match counts.find? (fun p => p.1 == s) with
  | some p => p.2.toNat
  | none => 0

/-- repair D4 on the level list -/
def repairD4 (levels : List (Nat × Nat)) : List (Nat × Nat) :=
  match levels with | [(_, s)] => [(1, s)] | l => l

def lenH (counts : List (Nat × Int)) (s : Nat) : Nat :=
  match (createFrom counts).lookup s with
  | some (bits, _) => bits
  | none => 0

theorem find?_key {α} (key : α → Nat) : ∀ (L : List α), L.Pairwise (fun a b => key a ≠ key b) →
    ∀ x ∈ L, L.find? (fun y => key y == key x) = some x := by
  intro L
  induction L with
  | nil => intro _ x hx; simp at hx
  | cons y L ih =>
    intro hp x hx
    rw [List.pairwise_cons] at hp
    rcases List.mem_cons.mp hx with rfl | hx
    · simp
    · have : key y ≠ key x := hp.1 x hx
      rw [List.find?_cons_of_neg (by simpa using this)]
      exact ih hp.2 x hx

theorem Valid.keys_ne {counts} (hv : Valid counts) : counts.Pairwise fun a b => a.1 ≠ b.1 :=
  hv.asc.imp (fun h => Nat.ne_of_lt h)

theorem Valid.nodup {counts} (hv : Valid counts) : (counts.map Prod.fst).Nodup := by
  unfold List.Nodup; rw [List.pairwise_map]; exact hv.keys_ne

theorem wOf_mem {counts} (hv : Valid counts) {p : Nat × Int} (hp : p ∈ counts) : wOf counts p.1 = p.2.toNat := by
  unfold wOf
  rw [find?_key Prod.fst counts hv.keys_ne p hp]

theorem le_sum_of_mem {α} (f : α → Nat) : ∀ (L : List α), ∀ x ∈ L, f x ≤ (L.map f).sum := by
  intro L
  induction L with
  | nil => intro x hx; simp at hx
  | cons y L ih =>
    intro x hx
    rcases List.mem_cons.mp hx with rfl | hx
    · simp
    · have := ih x hx; simp; omega

theorem T.two_le_syms_node (l r : T) : 2 ≤ (T.node l r).syms.length := by
  have := T.syms_length_pos l; have := T.syms_length_pos r
  simp [T.syms]; omega

theorem repairD4_of_length {L : List (Nat × Nat)} (h : L.length ≠ 1) : repairD4 L = L := by
  unfold repairD4
  split
  · simp at h
  · rfl

theorem flatMap_syms_leaves (counts : List (Nat × Int)) :
    (counts.map fun p => T.leaf p.1).flatMap T.syms = counts.map Prod.fst := by
  induction counts with
  | nil => rfl
  | cons p ps ih => simp [T.syms, ih]

theorem HuffT.leaves_syms {w} {counts : List (Nat × Int)} {t : T} (hT : HuffT w (counts.map fun p => T.leaf p.1) t) :
    t.syms.Perm (counts.map Prod.fst) := by
  have := hT.syms_perm
  rwa [flatMap_syms_leaves] at this

theorem HuffT.leaves_length {w} {counts : List (Nat × Int)} {t : T} (hT : HuffT w (counts.map fun p => T.leaf p.1) t) :
    t.syms.length = counts.length := by
  simpa using hT.leaves_syms.length_eq

theorem HuffT.leaves_huffRel {counts : List (Nat × Int)} {t : T} (hv : Valid counts)
    (hT : HuffT (wOf counts) (counts.map fun p => T.leaf p.1) t) :
    HuffRel (counts.map fun p => p.2.toNat) (t.cost (wOf counts)) := by
  obtain ⟨c, hrel, hcost⟩ := hT.huffRel
  have hz : ((counts.map fun p => T.leaf p.1).map (T.cost (wOf counts))).sum = 0 := by
    simp [List.map_map, Function.comp_def]
  have hw : (counts.map fun p => T.leaf p.1).map (T.weight (wOf counts)) = counts.map fun p => p.2.toNat := by
    rw [List.map_map]
    exact List.map_congr_left (fun x hx => by simp only [Function.comp_apply, T.weight, wOf_mem hv hx])
  rwa [hcost, hz, Nat.add_zero, ← hw]

theorem createFrom_encode {counts : List (Nat × Int)} (hne : counts ≠ []) :
    (createFrom counts).encode =
      assign (repairD4 (sortByLevel
        (levelsOf (buildTree counts.length (counts.map fun (s, c) => (-c, Node.leaf s)) #[])
          (2 * counts.length + 2)
          [((buildTree counts.length (counts.map fun (s, c) => (-c, Node.leaf s)) #[]).size - 1, 0)] []))) 0 0 := by
  unfold createFrom
  have : counts.isEmpty = false := by cases counts <;> simp_all
  rw [this]
  rfl

/-- the fuel `2 * counts.length + 2` is enough for `levelsOf`: a tree with `n` leaves has `2n − 1` nodes
(`T.size_add_one_eq`) -/
theorem buildTree_levels {counts : List (Nat × Int)} (hv : Valid counts) (hne : counts ≠ []) :
    ∃ t : T, HuffT (wOf counts) (counts.map fun p => T.leaf p.1) t ∧
      levelsOf (buildTree counts.length (counts.map fun (s, c) => (-c, Node.leaf s)) #[])
          (2 * counts.length + 2)
          [((buildTree counts.length (counts.map fun (s, c) => (-c, Node.leaf s)) #[]).size - 1, 0)] []
        = t.depths 0 := by
  have hrep : HeapRep (wOf counts) #[] (counts.map fun (s, c) => (-c, Node.leaf s)) (counts.map fun p => T.leaf p.1) := by
    unfold HeapRep
    rw [List.forall₂_map_left_iff, List.forall₂_map_right_iff, List.forall₂_same]
    intro p hp
    refine ⟨?_, RepN.leaf _⟩
    simp only [T.weight, wOf_mem hv hp]
    have := hv.pos p hp
    rw [Int.toNat_of_nonneg (by omega)]
  obtain ⟨t, n, hlast, hr, hT⟩ := buildTree_spec (wOf counts) counts.length _ #[] _ (by simp) (by simpa using hne) hrep
  refine ⟨t, hT, ?_⟩
  have hlen := hT.leaves_length
  have hsize := T.size_add_one_eq t
  rw [levelsOf_root _ t n _ _ hlast hr (by omega)]

theorem createFrom_exists_tree {counts : List (Nat × Int)} (hv : Valid counts) (hne : counts ≠ []) :
    ∃ t : T, HuffT (wOf counts) (counts.map fun p => T.leaf p.1) t ∧
      (createFrom counts).encode = assign (repairD4 (sortByLevel (t.depths 0))) 0 0 := by
  obtain ⟨t, hT, hl⟩ := buildTree_levels hv hne
  exact ⟨t, hT, by rw [createFrom_encode hne, hl]⟩

def finalLevels (t : T) : List (Nat × Nat) := repairD4 (sortByLevel (t.depths 0))

theorem repairD4_map_snd (L : List (Nat × Nat)) : (repairD4 L).map Prod.snd = L.map Prod.snd := by
  unfold repairD4; split <;> rfl

theorem repairD4_sorted {L : List (Nat × Nat)} (h : LevelSorted L) : LevelSorted (repairD4 L) := by
  unfold repairD4; split
  · simp [LevelSorted]
  · exact h

theorem finalLevels_syms (t : T) : ((finalLevels t).map Prod.snd).Perm t.syms := by
  unfold finalLevels
  rw [repairD4_map_snd, ← T.depths_map_snd t 0]
  exact (sortByLevel_perm _).map _

theorem finalLevels_multi {t : T} (h : 2 ≤ t.syms.length) : (finalLevels t).Perm (t.depths 0) := by
  unfold finalLevels
  have hl : (sortByLevel (t.depths 0)).length = t.syms.length := by
    rw [(sortByLevel_perm _).length_eq, ← T.depths_map_snd t 0, List.length_map]
  rw [repairD4_of_length (by omega)]
  exact sortByLevel_perm _

theorem finalLevels_leaf (s : Nat) : finalLevels (T.leaf s) = [(1, s)] := rfl

theorem finalLevels_pos (t : T) : ∀ p ∈ finalLevels t, 1 ≤ p.1 := by
  cases t with
  | leaf s => simp [finalLevels_leaf]
  | node l r =>
    intro p hp
    rcases List.mem_append.mp ((finalLevels_multi (T.two_le_syms_node l r)).mem_iff.mp hp) with hp' | hp'
    · exact T.depths_ge r _ p hp'
    · exact T.depths_ge l _ p hp'

theorem finalLevels_kraft {t : T} (h : 2 ≤ t.syms.length) (M : Nat) (hM : ∀ p ∈ finalLevels t, p.1 ≤ M) :
    lsum M (finalLevels t) = 2 ^ M := by
  rw [lsum_perm (finalLevels_multi h)]
  have := T.tree_kraft_eq M t 0 (fun p hp => hM p ((finalLevels_multi h).mem_iff.mpr hp))
  simpa using this

theorem finalLevels_pre (t : T) (M : Nat) (hM : ∀ p ∈ finalLevels t, p.1 ≤ M) : Pre M (finalLevels t) 0 0 := by
  refine Pre.top (repairD4_sorted (sortByLevel_sorted _)) hM ?_
  cases t with
  | leaf s =>
    have := hM (1, s) (by simp [finalLevels_leaf])
    simp only [finalLevels_leaf, lsum_cons, lsum_nil] at this ⊢
    have : 2 ^ (M - 1) * 2 = 2 ^ M := by rw [← pow_succ]; congr 1; omega
    omega
  | node l r => exact le_of_eq (finalLevels_kraft (T.two_le_syms_node l r) M hM)

theorem createFrom_nil : createFrom [] = ⟨[], emptyMap⟩ := rfl

theorem createFrom_pre {counts : List (Nat × Int)} (hv : Valid counts) :
    ∃ M L, (createFrom counts).encode = assign L 0 0 ∧ Pre M L 0 0 ∧ ∀ p ∈ L, 1 ≤ p.1 := by
  by_cases hne : counts = []
  · subst hne
    exact ⟨0, [], rfl, Pre.top List.Pairwise.nil nofun (Nat.zero_le _), nofun⟩
  · obtain ⟨t, -, henc⟩ := createFrom_exists_tree hv hne
    exact ⟨_, finalLevels t, henc, finalLevels_pre t _ (le_sum_of_mem Prod.fst (finalLevels t)), finalLevels_pos t⟩

theorem encode_len_pos {counts : List (Nat × Int)} (hv : Valid counts) :
    ∀ x ∈ (createFrom counts).encode, 1 ≤ x.2.1 := by
  obtain ⟨M, L, henc, -, hpos⟩ := createFrom_pre hv
  intro x hx
  have := List.mem_map_of_mem (f := fun e : Nat × Nat × Nat => (e.2.1, e.1)) hx
  rw [henc, assign_levels] at this
  exact hpos (x.2.1, x.1) this

section
variable {counts : List (Nat × Int)} {t : T}

theorem levels_syms_perm (hT : HuffT (wOf counts) (counts.map fun p => T.leaf p.1) t) :
    ((finalLevels t).map Prod.snd).Perm (counts.map Prod.fst) :=
  (finalLevels_syms t).trans hT.leaves_syms

theorem encode_keys_perm (hT : HuffT (wOf counts) (counts.map fun p => T.leaf p.1) t)
    (henc : (createFrom counts).encode = assign (finalLevels t) 0 0) :
    ((createFrom counts).encode.map fun e => e.1).Perm (counts.map Prod.fst) := by
  have := congrArg (List.map Prod.snd) (assign_levels (finalLevels t) 0 0)
  rw [List.map_map] at this
  rw [henc, show (fun e : Nat × Nat × Nat => e.1) = Prod.snd ∘ fun e => (e.2.1, e.1) from rfl, this]
  exact levels_syms_perm hT

theorem lookup_of_mem (hv : Valid counts) (hT : HuffT (wOf counts) (counts.map fun p => T.leaf p.1) t)
    (henc : (createFrom counts).encode = assign (finalLevels t) 0 0)
    {e : Nat × Nat × Nat} (he : e ∈ (createFrom counts).encode) : (createFrom counts).lookup e.1 = some e.2 := by
  have hnd : ((createFrom counts).encode.map fun e => e.1).Nodup :=
    (encode_keys_perm hT henc).nodup_iff.mpr hv.nodup
  unfold List.Nodup at hnd
  rw [List.pairwise_map] at hnd
  unfold Code.lookup
  have := find?_key (fun e : Nat × Nat × Nat => e.1) _ hnd e he
  rw [this]; rfl

theorem lenH_level (hv : Valid counts) (hT : HuffT (wOf counts) (counts.map fun p => T.leaf p.1) t)
    (henc : (createFrom counts).encode = assign (finalLevels t) 0 0)
    {p : Nat × Nat} (hp : p ∈ finalLevels t) : lenH counts p.2 = p.1 := by
  have hm : p ∈ ((createFrom counts).encode.map fun e => (e.2.1, e.1)) := by
    rw [henc, assign_levels]; exact hp
  obtain ⟨e, he, rfl⟩ := List.mem_map.mp hm
  unfold lenH
  rw [lookup_of_mem hv hT henc he]

theorem lenH_perm (hv : Valid counts) (hT : HuffT (wOf counts) (counts.map fun p => T.leaf p.1) t)
    (henc : (createFrom counts).encode = assign (finalLevels t) 0 0) :
    (counts.map fun p => (lenH counts p.1, p.1)).Perm (finalLevels t) := by
  have h := (levels_syms_perm hT).map fun s => (lenH counts s, s)
  rw [List.map_map, List.map_map] at h
  refine h.symm.trans (List.Perm.of_eq ?_)
  conv => rhs; rw [← List.map_id (finalLevels t)]
  exact List.map_congr_left fun p hp => by simp [lenH_level hv hT henc hp]

theorem sum_lenH_eq_cost (hv : Valid counts) (hT : HuffT (wOf counts) (counts.map fun p => T.leaf p.1) t)
    (henc : (createFrom counts).encode = assign (finalLevels t) 0 0) (h2 : 2 ≤ counts.length) :
    (counts.map fun p => p.2.toNat * lenH counts p.1).sum = t.cost (wOf counts) := by
  have h1 : (counts.map fun p => p.2.toNat * lenH counts p.1)
      = (counts.map fun p => (lenH counts p.1, p.1)).map fun q => wOf counts q.2 * q.1 := by
    rw [List.map_map]; exact List.map_congr_left fun p hp => by simp [wOf_mem hv hp]
  rw [h1, ((lenH_perm hv hT henc).map _).sum_nat, T.cost, T.costAt_eq_sum]
  exact ((finalLevels_multi (by rw [hT.leaves_length]; exact h2)).map _).sum_nat

end

theorem sum_int_cast (counts : List (Nat × Int)) (hpos : ∀ p ∈ counts, 0 < p.2) (f : Nat → Nat) :
    (counts.map fun p => p.2 * (f p.1 : Int)).sum = (((counts.map fun p => p.2.toNat * f p.1).sum : Nat) : Int) := by
  induction counts with
  | nil => simp
  | cons p ps ih =>
    have h0 := hpos p (by simp)
    have := ih (fun q hq => hpos q (by simp [hq]))
    simp only [List.map_cons, List.sum_cons, Nat.cast_add, Nat.cast_mul, this]
    rw [Int.toNat_of_nonneg (by omega)]

theorem createFrom_single (s : Nat) (c : Int) : (createFrom [(s, c)]).encode = [(s, 1, 0)] := by
  rw [createFrom_encode (by simp)]
  simp [buildTree, popMax, levelsOf, sortByLevel, insertByLevel, repairD4, assign]

theorem buildTree_huffRel {counts : List (Nat × Int)} (hv : Valid counts) (hne : counts ≠ []) :
    let tree := buildTree counts.length (counts.map fun (s, c) => (-c, Node.leaf s)) #[]
    let levels := levelsOf tree (2 * counts.length + 2) [(tree.size - 1, 0)] []
    HuffRel (counts.map fun p => p.2.toNat) ((levels.map fun p => wOf counts p.2 * p.1).sum) ∧
      (levels.map Prod.snd).Perm (counts.map Prod.fst) := by
  obtain ⟨t, hT, hl⟩ := buildTree_levels hv hne
  simp only [hl]
  have hrel := hT.leaves_huffRel hv
  rw [T.cost, T.costAt_eq_sum] at hrel
  exact ⟨hrel, by rw [T.depths_map_snd]; exact hT.leaves_syms⟩

end FC.Huff
