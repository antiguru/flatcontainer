import Mathlib.Tactic.Linarith
import Mathlib.Tactic.Ring
import Mathlib.Data.List.Perm.Basic
/-! Huffman optimality over Kraft-feasible depth assignments (no trees), and Kraft for prefix-free bit strings. -/
namespace FC.Huff.Opt

/-- an assignment: list of (weight, depth) -/
abbrev Asg := List (Nat × Nat)

def cost (E : Asg) : Nat := (E.map fun e => e.1 * e.2).sum
def kraft (M : Nat) (E : Asg) : Nat := (E.map fun e => 2 ^ (M - e.2)).sum
def Feasible (M : Nat) (E : Asg) : Prop := (∀ e ∈ E, e.2 ≤ M) ∧ kraft M E ≤ 2 ^ M

theorem cost_perm {E F : Asg} (h : E.Perm F) : cost E = cost F := by
  unfold cost; exact (h.map _).sum_nat

theorem Feasible.of_depths_perm {M} {E F : Asg} (h : (E.map Prod.snd).Perm (F.map Prod.snd)) (hf : Feasible M E) :
    Feasible M F := by
  refine ⟨fun e he => ?_, ?_⟩
  · obtain ⟨e', he', hd⟩ := List.mem_map.mp (h.mem_iff.mpr (List.mem_map_of_mem he))
    exact hd ▸ hf.1 e' he'
  · have := (h.map fun d => 2 ^ (M - d)).sum_nat
    simp only [List.map_map, Function.comp_def] at this
    unfold kraft; rw [← this]; exact hf.2

@[simp] theorem cost_cons (e : Nat × Nat) (E : Asg) : cost (e :: E) = e.1 * e.2 + cost E := by
  simp [cost]
@[simp] theorem kraft_cons (M) (e : Nat × Nat) (E : Asg) : kraft M (e :: E) = 2 ^ (M - e.2) + kraft M E := by
  simp [kraft]

/-- swapping depths of a lighter-and-shallower entry with a heavier-and-deeper one does not increase cost -/
theorem swap_cost (a w d m : Nat) (haw : a ≤ w) (hdm : d ≤ m) : a * m + w * d ≤ a * d + w * m := by
  nlinarith [Nat.mul_le_mul haw hdm, Nat.mul_le_mul_left a hdm, Nat.mul_le_mul_right d haw]

theorem merge_cost (a b d : Nat) (hd : 1 ≤ d) : (a + b) * (d - 1) + a + b = a * d + b * d := by
  obtain ⟨k, rfl⟩ : ∃ k, d = k + 1 := ⟨d - 1, by omega⟩
  simp; ring

theorem merge_kraft (M d : Nat) (hd : 1 ≤ d) (hM : d ≤ M) : 2 ^ (M - (d - 1)) = 2 ^ (M - d) + 2 ^ (M - d) := by
  have : M - (d - 1) = (M - d) + 1 := by omega
  rw [this, pow_succ]; ring

theorem kraft_dvd (M d : Nat) (E : Asg) (h : ∀ e ∈ E, e.2 ≤ d) (hd : d ≤ M) : 2 ^ (M - d) ∣ kraft M E := by
  induction E with
  | nil => simp [kraft]
  | cons e E ih =>
    rw [kraft_cons]
    apply Nat.dvd_add
    · apply Nat.pow_dvd_pow; have := h e (by simp); omega
    · exact ih (fun e' he' => h e' (by simp [he']))

theorem lift_deepest (M d1 d2 : Nat) (E : Asg) (h : ∀ e ∈ E, e.2 ≤ d2) (h12 : d2 < d1) (h1M : d1 ≤ M)
    (hk : 2 ^ (M - d1) + kraft M E ≤ 2 ^ M) : 2 ^ (M - d2) + kraft M E ≤ 2 ^ M := by
  obtain ⟨x, hx⟩ := kraft_dvd M d2 E h (by omega)
  have hM : 2 ^ M = 2 ^ (M - d2) * 2 ^ d2 := by rw [← pow_add]; congr 1; omega
  have hpos : 0 < 2 ^ (M - d1) := Nat.two_pow_pos _
  rw [hx, hM] at hk ⊢
  have : x < 2 ^ d2 := by
    by_contra hc
    simp only [Nat.not_lt] at hc
    have := Nat.mul_le_mul_left (2 ^ (M - d2)) hc
    omega
  calc 2 ^ (M - d2) + 2 ^ (M - d2) * x = 2 ^ (M - d2) * (x + 1) := by ring
    _ ≤ 2 ^ (M - d2) * 2 ^ d2 := Nat.mul_le_mul_left _ this

theorem pull_deepest (a : Nat) : ∀ (R : Asg) (d : Nat), (∀ w ∈ R.map Prod.fst, a ≤ w) →
    ∃ (d' : Nat) (R' : Asg), R'.map Prod.fst = R.map Prod.fst ∧
      (d' :: R'.map Prod.snd).Perm (d :: R.map Prod.snd) ∧ (∀ x ∈ R'.map Prod.snd, x ≤ d') ∧
      a * d' + cost R' ≤ a * d + cost R := by
  intro R
  induction R with
  | nil => exact fun d _ => ⟨d, [], rfl, .refl _, by simp, le_refl _⟩
  | cons e R0 ih =>
    intro d ha
    obtain ⟨w, x⟩ := e
    obtain ⟨haw, haR0⟩ := List.forall_mem_cons.1 ha
    obtain ⟨d0, R0', hw, hp, hmax, hc⟩ := ih d haR0
    rcases Nat.le_total x d0 with hx | hx
    · refine ⟨d0, (w, x) :: R0', by simp [hw], ?_, List.forall_mem_cons.2 ⟨hx, hmax⟩, ?_⟩
      · exact (List.Perm.swap _ _ _).trans ((hp.cons x).trans (List.Perm.swap _ _ _))
      · simp only [cost_cons]; omega
    · refine ⟨x, (w, d0) :: R0', by simp [hw], ?_, ?_, ?_⟩
      · exact (hp.cons x).trans (List.Perm.swap _ _ _)
      · exact List.forall_mem_cons.2 ⟨hx, fun y hy => le_trans (hmax y hy) hx⟩
      · have := swap_cost a w d0 x haw hx
        simp only [cost_cons]; omega

/-- `pull_deepest` with its consequences for the Kraft sum and for bounds on the depths spelt out. The last conjunct
(every bound `B` on the old depths bounds the new ones) gives feasibility with `B := M`, and compares two successive
pulls with `B` the depth pulled before. `optimal` below works from `pull_deepest` itself. -/
theorem pull_max (M a : Nat) : ∀ (R : Asg) (d : Nat), (∀ e ∈ R, a ≤ e.1) →
    ∃ (d' : Nat) (R' : Asg), R'.map Prod.fst = R.map Prod.fst ∧
      2 ^ (M - d') + kraft M R' = 2 ^ (M - d) + kraft M R ∧
      (∀ e ∈ R', e.2 ≤ d') ∧ d ≤ d' ∧
      a * d' + cost R' ≤ a * d + cost R ∧
      (∀ B, d ≤ B → (∀ e ∈ R, e.2 ≤ B) → d' ≤ B ∧ ∀ e ∈ R', e.2 ≤ B) := by
  intro R d ha
  obtain ⟨d', R', hw, hp, hmax, hc⟩ := pull_deepest a R d (List.forall_mem_map.2 ha)
  have hB : ∀ B, d ≤ B → (∀ e ∈ R, e.2 ≤ B) → ∀ x ∈ d' :: R'.map Prod.snd, x ≤ B := fun B hdB hRB x hx =>
    (List.forall_mem_cons (p := (· ≤ B))).2 ⟨hdB, List.forall_mem_map.2 hRB⟩ x (hp.mem_iff.mp hx)
  refine ⟨d', R', hw, ?_, List.forall_mem_map.1 hmax, ?_, hc, fun B hdB hRB => ?_⟩
  · simpa [kraft, Function.comp_def] using (hp.map fun x => 2 ^ (M - x)).sum_nat
  · rcases List.mem_cons.mp (hp.mem_iff.mpr List.mem_cons_self) with rfl | h
    exacts [le_refl _, hmax d h]
  · exact ⟨hB B hdB hRB d' List.mem_cons_self, fun e he => hB B hdB hRB _ (List.mem_cons_of_mem _ (List.mem_map_of_mem he))⟩

/-- the sibling step: when the two largest depths `d2 ≤ d1` sit on `a` and `b`, the two entries can be replaced by one
of weight `a + b` and depth `d2 - 1` (after lifting `a` to `d2` if it is strictly deeper), saving `a + b` -/
theorem merge_deepest {M a b d1 d2 : Nat} {R : Asg} (h21 : d2 ≤ d1) (hR : ∀ x ∈ R.map Prod.snd, x ≤ d2)
    (hF : Feasible M ((a, d1) :: (b, d2) :: R)) :
    Feasible M ((a + b, d2 - 1) :: R) ∧ cost ((a + b, d2 - 1) :: R) + a + b ≤ cost ((a, d1) :: (b, d2) :: R) := by
  obtain ⟨hd1M, hd2M, hRM⟩ : d1 ≤ M ∧ d2 ≤ M ∧ ∀ e ∈ R, e.2 ≤ M := by simpa using hF.1
  have hK : 2 ^ (M - d1) + kraft M ((b, d2) :: R) ≤ 2 ^ M := by simpa using hF.2
  have hK2 : 2 ^ (M - d2) + kraft M ((b, d2) :: R) ≤ 2 ^ M := by
    rcases Nat.lt_or_eq_of_le h21 with hlt | rfl
    · exact lift_deepest M d1 d2 _ (List.forall_mem_cons.2 ⟨le_refl _, List.forall_mem_map.1 hR⟩) hlt hd1M hK
    · exact hK
  simp only [kraft_cons] at hK2
  have hd2pos : 1 ≤ d2 := by
    by_contra h0
    have : 0 < 2 ^ M := Nat.two_pow_pos _
    simp only [show d2 = 0 by omega, Nat.sub_zero] at hK2; omega
  refine ⟨⟨List.forall_mem_cons.2 ⟨by show d2 - 1 ≤ M; omega, hRM⟩, ?_⟩, ?_⟩
  · rw [kraft_cons, merge_kraft M d2 hd2pos hd2M]; omega
  · have := merge_cost a b d2 hd2pos
    have := Nat.mul_le_mul_left a h21
    simp only [cost_cons]; omega

/-- greedy Huffman runs on weight lists, any tie-breaking; `c` is the total cost -/
inductive HuffRel : List Nat → Nat → Prop
  | single (w : Nat) : HuffRel [w] 0
  | step {ws rest : List Nat} {a b c : Nat} : ws.Perm (a :: b :: rest) → (∀ x ∈ rest, a ≤ x ∧ b ≤ x) → a ≤ b →
      HuffRel ((a + b) :: rest) c → HuffRel ws (c + a + b)

theorem perm_map_cons {α β} [DecidableEq α] (f : α → β) (E : List α) (x : β) (l : List β)
    (h : (E.map f).Perm (x :: l)) : ∃ e E', E.Perm (e :: E') ∧ f e = x ∧ (E'.map f).Perm l := by
  have hx : x ∈ E.map f := h.mem_iff.mpr (by simp)
  obtain ⟨e, he, rfl⟩ := List.mem_map.mp hx
  refine ⟨e, E.erase e, List.perm_cons_erase he, rfl, ?_⟩
  have h2 : (E.map f).Perm (f e :: (E.erase e).map f) := (List.perm_cons_erase he).map f
  exact (List.Perm.cons_inv (h2.symm.trans h))

theorem optimal {ws : List Nat} {c : Nat} (h : HuffRel ws c) :
    ∀ (M : Nat) (E : Asg), (E.map Prod.fst).Perm ws → Feasible M E → c ≤ cost E := by
  induction h with
  | single w => intro M E _ _; exact Nat.zero_le _
  | @step ws rest a b c hperm hmin hab _ ih =>
    intro M E hE hF
    -- the entries that carry `a` and `b`
    obtain ⟨⟨pa, dp⟩, E1, hp, hpa, hE1⟩ := perm_map_cons Prod.fst E a (b :: rest) (hE.trans hperm)
    obtain ⟨⟨qb, dq⟩, R, hq, hqb, hR⟩ := perm_map_cons Prod.fst E1 b rest hE1
    obtain ⟨rfl, rfl⟩ : a = pa ∧ b = qb := ⟨hpa.symm, hqb.symm⟩
    have hEperm : E.Perm ((a, dp) :: (b, dq) :: R) := hp.trans (hq.cons _)
    have hRmin : ∀ w ∈ R.map Prod.fst, a ≤ w ∧ b ≤ w := fun w hw => hmin w (hR.mem_iff.mp hw)
    -- rearrange the depths: `a` gets the largest, `b` the largest of the others
    obtain ⟨d1, R1, hw1, hp1, hmax1, hc1⟩ := pull_deepest a ((b, dq) :: R) dp
      (List.forall_mem_cons.2 ⟨hab, fun w hw => (hRmin w hw).1⟩)
    obtain ⟨⟨qb1, dq1⟩, R1', rfl, hqb1, hw1'⟩ := List.map_eq_cons_iff.mp hw1
    obtain rfl : b = qb1 := hqb1.symm
    obtain ⟨d2, R2, hw2, hp2, hmax2, hc2⟩ := pull_deepest b R1' dq1 (hw1' ▸ fun w hw => (hRmin w hw).2)
    have hF2 : Feasible M ((a, d1) :: (b, d2) :: R2) :=
      hF.of_depths_perm ((hEperm.map Prod.snd).trans ((hp2.cons d1).trans hp1).symm)
    -- merge them and apply the induction hypothesis to the shorter assignment
    obtain ⟨hF', hcost⟩ := merge_deepest (hmax1 d2 (hp2.mem_iff.mp List.mem_cons_self)) hmax2 hF2
    have hIH := ih M _ (by simpa only [List.map_cons, hw2, hw1'] using hR.cons (a + b)) hF'
    have := cost_perm hEperm
    simp only [cost_cons] at *
    omega


/-- prefix-free, pairwise by position (so a repeated string is excluded as well) -/
def PrefixFree (L : List (List Bool)) : Prop := L.Pairwise fun a b => ¬ a <+: b ∧ ¬ b <+: a

instance (L : List (List Bool)) : Decidable (PrefixFree L) := by unfold PrefixFree; infer_instance

def ksum (M : Nat) (L : List (List Bool)) : Nat := (L.map fun b => 2 ^ (M - b.length)).sum

def tailsOf (c : Bool) (L : List (List Bool)) : List (List Bool) :=
  L.filterMap fun x => match x with | [] => none | d :: t => if d = c then some t else none

theorem prefixFree_tailsOf (c : Bool) {L} (h : PrefixFree L) : PrefixFree (tailsOf c L) := by
  unfold PrefixFree tailsOf
  refine List.Pairwise.filterMap _ ?_ h
  intro a a' hR b ha b' ha'
  cases a with
  | nil => simp at ha
  | cons d t =>
    cases a' with
    | nil => simp at ha'
    | cons d' t' =>
      simp only [Option.ite_none_right_eq_some, Option.some.injEq] at ha ha'
      obtain ⟨rfl, rfl⟩ := ha; obtain ⟨rfl, rfl⟩ := ha'
      simpa [List.cons_prefix_cons] using hR

theorem mem_tailsOf {c : Bool} {L} {t : List Bool} : t ∈ tailsOf c L ↔ (c :: t) ∈ L := by
  unfold tailsOf
  rw [List.mem_filterMap]
  constructor
  · rintro ⟨a, ha, h⟩
    cases a with
    | nil => simp at h
    | cons d t' =>
      simp only [Option.ite_none_right_eq_some, Option.some.injEq] at h
      obtain ⟨rfl, rfl⟩ := h; exact ha
  · intro h; exact ⟨c :: t, h, by simp⟩

theorem ksum_split (M : Nat) (L : List (List Bool)) (h : ∀ x ∈ L, x ≠ []) :
    ksum (M + 1) L = ksum M (tailsOf false L) + ksum M (tailsOf true L) := by
  induction L with
  | nil => simp [ksum, tailsOf]
  | cons x L ih =>
    have ih' := ih (fun y hy => h y (by simp [hy]))
    cases x with
    | nil => exact absurd rfl (h [] (by simp))
    | cons d t =>
      unfold ksum tailsOf at *
      cases d <;> simp [ih'] <;> omega

theorem prefixFree_nil_mem {L : List (List Bool)} (h : PrefixFree L) (hn : [] ∈ L) : L = [[]] := by
  cases L with
  | nil => simp at hn
  | cons a L' =>
    unfold PrefixFree at h
    rw [List.pairwise_cons] at h
    cases a with
    | nil =>
      cases L' with
      | nil => rfl
      | cons b _ => exact absurd (List.nil_prefix) (h.1 b (by simp)).1
    | cons d t =>
      simp only [List.mem_cons, reduceCtorEq, false_or] at hn
      exact absurd (List.nil_prefix) (h.1 [] hn).2

theorem prefix_free_kraft : ∀ (M : Nat) (L : List (List Bool)), PrefixFree L → (∀ b ∈ L, b.length ≤ M) →
    (L.map fun b => 2 ^ (M - b.length)).sum ≤ 2 ^ M := by
  intro M
  induction M with
  | zero =>
    intro L hpf hlen
    by_cases hn : [] ∈ L
    · rw [prefixFree_nil_mem hpf hn]; simp
    · cases L with
      | nil => simp
      | cons a L' =>
        have := hlen a (by simp)
        have : a = [] := List.eq_nil_of_length_eq_zero (by omega)
        subst this; exact absurd (by simp) hn
  | succ M ih =>
    intro L hpf hlen
    by_cases hn : [] ∈ L
    · rw [prefixFree_nil_mem hpf hn]; simp
    · have hne : ∀ x ∈ L, x ≠ [] := fun x hx hx0 => hn (hx0 ▸ hx)
      have hs := ksum_split M L hne
      unfold ksum at hs
      rw [hs]
      have h0 := ih (tailsOf false L) (prefixFree_tailsOf _ hpf)
        (fun b hb => by have := hlen _ (mem_tailsOf.mp hb); simp at this; omega)
      have h1 := ih (tailsOf true L) (prefixFree_tailsOf _ hpf)
        (fun b hb => by have := hlen _ (mem_tailsOf.mp hb); simp at this; omega)
      rw [pow_succ]; omega

theorem feasible_of_prefixFree {ι} (l : List ι) (wt : ι → Nat) (g : ι → List Bool) (M : Nat)
    (hpf : PrefixFree (l.map g)) (hM : ∀ i ∈ l, (g i).length ≤ M) :
    Feasible M (l.map fun i => (wt i, (g i).length)) := by
  refine ⟨List.forall_mem_map.2 hM, ?_⟩
  · have := prefix_free_kraft M (l.map g) hpf (List.forall_mem_map.2 hM)
    unfold kraft
    simpa [List.map_map, Function.comp_def] using this

end FC.Huff.Opt
