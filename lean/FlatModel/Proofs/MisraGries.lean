import FlatModel.Proofs.Codec
import Mathlib.Tactic.Linarith
import Mathlib.Tactic.Ring
/-! The Misra–Gries guarantee of `MG.tidy` / `MG.update` (C07, last sentence).

Everything is proved for a generic capacity (`MG.tidyK k`, `MG.updateK cap`, with `k = cap / 2`) and instantiated at the
crate's `cap = MG.cap`, `k = MG.k`; on the constant, and on what looks at its value, see the head of Proofs/MGCap.lean.

Summary of the mathematics. Write `est m b` for the summed weight of `b` in the raw list of `m`,
`trueCount ops b` for the weight inserted for `b`, `total ops` for all the weight inserted. A compaction
that drops something (`l.length > k` after consolidation) subtracts `sub = d - 1` from the `k` largest
counts and drops the rest, whose counts are `≤ d`, where `d = l[k].2 ≥ 1`. So one compaction loses up to
`d` per key, but is only guaranteed to remove `(k+1)·d - k` weight in total: the classical bound
`trueCount - est ≤ total/(k+1)` is FALSE for this `tidy` (see `classical_bound_fails` in Props/C07MG). What
holds is the potential inequality
  `(k+1)·D + Σest + (raw length) ≤ total + (number of insertions)`            (`MGInv.pot`)
where `D` (ghost) is the sum of the `d`s, `est ≤ trueCount ≤ est + D`; the `k` lost per compaction is paid
for by the `≥ cap - k ≥ k` insertions needed to fill the list up again.

A trap: with the Mathlib imports above, the `Zero ℕ` instance that `List.sum` finds in `cnt` and `wsum` (and in `occurrences`,
`pushes` of Props/C07MG) is Mathlib's, and which one is found depends on the imports and their order; statements of
Props/C07MG rest on these definitions as they elaborate here. For the same reason Proofs/Codec.lean and Props/C07.lean,
whose statements use `List.sum` too, must not come to import this file. -/
namespace FC.Codec

theorem bytesLt_iff : ∀ {a b : Bytes}, bytesLt a b = true ↔ a < b
  | [], [] => by simp [bytesLt]
  | [], _ :: _ => by simp [bytesLt]
  | _ :: _, [] => by simp [bytesLt]
  | x :: xs, y :: ys => by simp [bytesLt, List.cons_lt_cons_iff, bytesLt_iff (a := xs)]

theorem bytesLt_false_iff {a b : Bytes} : bytesLt a b = false ↔ b ≤ a := by
  rw [← Bool.not_eq_true, bytesLt_iff, List.not_lt]

theorem bytesLt_irrefl (a : Bytes) : bytesLt a a = false := bytesLt_false_iff.2 (List.le_refl a)

theorem insertBy_sorted {α} (lt : α → α → Bool) (hasym : ∀ a b, lt a b = true → lt b a = false)
    (htr : ∀ a b c, lt b a = false → lt c b = false → lt c a = false) (x : α) (l : List α)
    (h : l.Pairwise fun a b => lt b a = false) : (insertBy lt x l).Pairwise fun a b => lt b a = false := by
  induction l with
  | nil => simp [insertBy]
  | cons y ys ih =>
    obtain ⟨hy, hys⟩ := List.pairwise_cons.1 h
    unfold insertBy
    split
    · rename_i hlt
      refine List.pairwise_cons.2 ⟨?_, ih hys⟩
      intro z hz
      rcases List.mem_cons.1 ((insertBy_perm lt x ys).mem_iff.1 hz) with rfl | hz
      · exact hasym _ _ hlt
      · exact hy z hz
    · rename_i hlt
      have hlt' : lt y x = false := by simpa using hlt
      refine List.pairwise_cons.2 ⟨?_, h⟩
      intro z hz
      rcases List.mem_cons.1 hz with rfl | hz
      · exact hlt'
      · exact htr _ _ _ hlt' (hy z hz)

theorem sortBy_sorted {α} (lt : α → α → Bool) (hasym : ∀ a b, lt a b = true → lt b a = false)
    (htr : ∀ a b c, lt b a = false → lt c b = false → lt c a = false) (l : List α) :
    (sortBy lt l).Pairwise fun a b => lt b a = false := by
  unfold sortBy
  induction l with
  | nil => exact List.Pairwise.nil
  | cons x l ih =>
    exact insertBy_sorted lt hasym htr x _ ih

theorem sortBy_eq_self {α} (lt : α → α → Bool) {l : List α} (h : l.Pairwise fun a b => lt b a = false) :
    sortBy lt l = l := by
  induction l with
  | nil => rfl
  | cons x l ih =>
    obtain ⟨hx, hl⟩ := List.pairwise_cons.1 h
    show insertBy lt x (sortBy lt l) = x :: l
    rw [ih hl]
    cases l with
    | nil => rfl
    | cons y ys => simp [insertBy, hx y (List.mem_cons_self ..)]

theorem sortDesc_sorted (l : List (Bytes × Nat)) :
    (sortBy (fun x y => decide (y.2 < x.2)) l).Pairwise fun a b => b.2 ≤ a.2 := by
  have := sortBy_sorted (fun (x y : Bytes × Nat) => decide (y.2 < x.2))
    (by intro a b h; simp only [decide_eq_true_eq, decide_eq_false_iff_not] at h ⊢; omega)
    (by intro a b c h1 h2; simp only [decide_eq_false_iff_not] at h1 h2 ⊢; omega) l
  refine this.imp ?_
  intro a b h
  simp only [decide_eq_false_iff_not] at h
  omega

theorem sortKey_sorted (l : List (Bytes × Nat)) :
    (sortBy (fun x y => bytesLt x.1 y.1) l).Pairwise fun a b => bytesLt b.1 a.1 = false :=
  sortBy_sorted (fun (x y : Bytes × Nat) => bytesLt x.1 y.1)
    (fun _ _ h => bytesLt_false_iff.2 (List.le_of_lt (bytesLt_iff.1 h)))
    (fun _ _ _ h1 h2 => bytesLt_false_iff.2 (List.le_trans (bytesLt_false_iff.1 h1) (bytesLt_false_iff.1 h2))) l

def cnt (l : List (Bytes × Nat)) (b : Bytes) : Nat := (l.map fun e => if e.1 = b then e.2 else 0).sum
def wsum (l : List (Bytes × Nat)) : Nat := (l.map (·.2)).sum

@[simp] theorem cnt_nil (b : Bytes) : cnt [] b = 0 := rfl
@[simp] theorem cnt_cons (e : Bytes × Nat) (l : List (Bytes × Nat)) (b : Bytes) :
    cnt (e :: l) b = (if e.1 = b then e.2 else 0) + cnt l b := by
  simp [cnt]
@[simp] theorem cnt_append (l l' : List (Bytes × Nat)) (b : Bytes) : cnt (l ++ l') b = cnt l b + cnt l' b := by
  simp [cnt]
@[simp] theorem wsum_nil : wsum [] = 0 := rfl
@[simp] theorem wsum_cons (e : Bytes × Nat) (l : List (Bytes × Nat)) : wsum (e :: l) = e.2 + wsum l := by
  simp [wsum]
@[simp] theorem wsum_append (l l' : List (Bytes × Nat)) : wsum (l ++ l') = wsum l + wsum l' := by
  simp [wsum]

theorem cnt_flatten (ls : List (List (Bytes × Nat))) (b : Bytes) :
    cnt ls.flatten b = (ls.map (cnt · b)).sum := by
  induction ls with
  | nil => rfl
  | cons l ls ih => simp only [List.flatten_cons, cnt_append, List.map_cons, List.sum_cons, ih]
theorem wsum_flatten (ls : List (List (Bytes × Nat))) : wsum ls.flatten = (ls.map wsum).sum := by
  induction ls with
  | nil => rfl
  | cons l ls ih => simp only [List.flatten_cons, wsum_append, List.map_cons, List.sum_cons, ih]

theorem cnt_perm {l l' : List (Bytes × Nat)} (h : l.Perm l') (b : Bytes) : cnt l b = cnt l' b :=
  (h.map _).sum_nat
theorem wsum_perm {l l' : List (Bytes × Nat)} (h : l.Perm l') : wsum l = wsum l' :=
  (h.map _).sum_nat

theorem cnt_le_wsum (l : List (Bytes × Nat)) (b : Bytes) : cnt l b ≤ wsum l := by
  induction l with
  | nil => simp
  | cons e l ih => simp only [cnt_cons, wsum_cons]; split <;> omega

theorem cnt_map_const (ks : List Bytes) (w : Nat) (b : Bytes) : cnt (ks.map (·, w)) b = ks.count b * w := by
  induction ks with
  | nil => simp
  | cons k ks ih =>
    rw [List.map_cons, cnt_cons, ih, List.count_cons]
    by_cases h : k = b <;> simp [h, Nat.add_mul, Nat.add_comm]

theorem wsum_map_const (ks : List Bytes) (w : Nat) : wsum (ks.map (·, w)) = ks.length * w := by
  induction ks with
  | nil => simp
  | cons k ks ih => rw [List.map_cons, wsum_cons, ih, List.length_cons, Nat.add_mul]; omega

theorem cnt_eq_zero_of_not_mem {l : List (Bytes × Nat)} {b : Bytes} (h : ∀ x ∈ l, x.1 ≠ b) : cnt l b = 0 := by
  induction l with
  | nil => rfl
  | cons e l ih =>
    rw [cnt_cons, if_neg (h e (List.mem_cons_self ..)), ih fun x hx => h x (List.mem_cons_of_mem _ hx)]

theorem exists_mem_of_cnt_pos {l : List (Bytes × Nat)} {b : Bytes} (h : 0 < cnt l b) :
    ∃ c, 0 < c ∧ (b, c) ∈ l := by
  induction l with
  | nil => simp at h
  | cons e l ih =>
    rw [cnt_cons] at h
    by_cases he : e.1 = b
    · by_cases h0 : 0 < e.2
      · exact ⟨e.2, h0, by rw [← he]; exact List.mem_cons_self ..⟩
      · rw [if_pos he] at h
        obtain ⟨c, hc, hm⟩ := ih (by omega)
        exact ⟨c, hc, List.mem_cons_of_mem _ hm⟩
    · rw [if_neg he] at h
      obtain ⟨c, hc, hm⟩ := ih (by omega)
      exact ⟨c, hc, List.mem_cons_of_mem _ hm⟩

abbrev KeysNodup (l : List (Bytes × Nat)) : Prop := l.Pairwise fun x y => x.1 ≠ y.1

theorem cnt_of_mem_nodup {l : List (Bytes × Nat)} (hnd : KeysNodup l) {b : Bytes} {c : Nat} (h : (b, c) ∈ l) :
    cnt l b = c := by
  induction l with
  | nil => cases h
  | cons e l ih =>
    obtain ⟨he, hl⟩ := List.pairwise_cons.1 hnd
    rcases List.mem_cons.1 h with rfl | h
    · rw [cnt_cons, if_pos rfl, cnt_eq_zero_of_not_mem fun x hx => (he x hx).symm]
      rfl
    · rw [cnt_cons, if_neg (he _ h), ih hl h]; omega

theorem cnt_le_of_nodup {l : List (Bytes × Nat)} (hnd : KeysNodup l) {d : Nat} (hd : ∀ x ∈ l, x.2 ≤ d)
    (b : Bytes) : cnt l b ≤ d := by
  induction l with
  | nil => simp
  | cons e l ih =>
    obtain ⟨he, hl⟩ := List.pairwise_cons.1 hnd
    rw [cnt_cons]
    by_cases hb : e.1 = b
    · rw [if_pos hb, cnt_eq_zero_of_not_mem fun x hx => by rw [← hb]; exact (he x hx).symm]
      exact hd e (List.mem_cons_self ..)
    · rw [if_neg hb, Nat.zero_add]
      exact ih hl fun x hx => hd x (List.mem_cons_of_mem _ hx)

theorem cnt_append_nodup {l₁ l₂ : List (Bytes × Nat)} (hnd : KeysNodup (l₁ ++ l₂)) (b : Bytes) :
    cnt l₁ b = 0 ∨ cnt l₂ b = 0 := by
  by_cases h : ∃ x ∈ l₁, x.1 = b
  · obtain ⟨x, hx, rfl⟩ := h
    right
    exact cnt_eq_zero_of_not_mem fun y hy => ((List.pairwise_append.1 hnd).2.2 x hx y hy).symm
  · left
    exact cnt_eq_zero_of_not_mem fun x hx hb => h ⟨x, hx, hb⟩

abbrev subAll (s : Nat) (l : List (Bytes × Nat)) : List (Bytes × Nat) := l.map fun (b, w) => (b, w - s)

theorem cnt_subAll_le (s : Nat) (l : List (Bytes × Nat)) (b : Bytes) : cnt (subAll s l) b ≤ cnt l b := by
  induction l with
  | nil => simp
  | cons e l ih =>
    simp only [subAll, List.map_cons, cnt_cons] at ih ⊢
    split <;> omega

theorem cnt_le_subAll {s : Nat} {l : List (Bytes × Nat)} (hnd : KeysNodup l) (b : Bytes) :
    cnt l b ≤ cnt (subAll s l) b + s := by
  induction l with
  | nil => simp
  | cons e l ih =>
    obtain ⟨he, hl⟩ := List.pairwise_cons.1 hnd
    have ih := ih hl
    simp only [subAll, List.map_cons, cnt_cons] at ih ⊢
    by_cases hb : e.1 = b
    · have : cnt l b = 0 := cnt_eq_zero_of_not_mem fun x hx => by rw [← hb]; exact (he x hx).symm
      rw [if_pos hb, if_pos hb]; omega
    · rw [if_neg hb, if_neg hb]; omega

theorem wsum_subAll {s : Nat} {l : List (Bytes × Nat)} (h : ∀ x ∈ l, s ≤ x.2) :
    wsum (subAll s l) + s * l.length = wsum l := by
  induction l with
  | nil => simp
  | cons e l ih =>
    have ih := ih fun x hx => h x (List.mem_cons_of_mem _ hx)
    have he := h e (List.mem_cons_self ..)
    simp only [subAll, List.map_cons, wsum_cons, List.length_cons, Nat.mul_succ] at ih ⊢
    omega

/-- the `while last == 0 { pop }` loop -/
abbrev stripZ (l : List (Bytes × Nat)) : List (Bytes × Nat) := (l.reverse.dropWhile (·.2 == 0)).reverse

theorem of_mem_takeWhile {α} (p : α → Bool) {x : α} : ∀ {l : List α}, x ∈ l.takeWhile p → p x = true := by
  intro l
  induction l with
  | nil => intro h; cases h
  | cons y ys ih =>
    intro h
    rw [List.takeWhile_cons] at h
    split at h
    · rcases List.mem_cons.1 h with rfl | h
      · assumption
      · exact ih h
    · cases h

theorem stripZ_spec (l : List (Bytes × Nat)) : ∃ zs, l = stripZ l ++ zs ∧ ∀ z ∈ zs, z.2 = 0 := by
  refine ⟨(l.reverse.takeWhile (·.2 == 0)).reverse, ?_, ?_⟩
  · have := congrArg List.reverse (List.takeWhile_append_dropWhile (p := fun x : Bytes × Nat => x.2 == 0) (l := l.reverse))
    rw [List.reverse_append, List.reverse_reverse] at this
    exact this.symm
  · intro z hz
    have := of_mem_takeWhile _ (List.mem_reverse.1 hz)
    simpa using this

theorem stripZ_eq_self {l : List (Bytes × Nat)} (h : ∀ e ∈ l, e.2 ≠ 0) : stripZ l = l := by
  obtain ⟨zs, e, hz⟩ := stripZ_spec l
  cases zs with
  | nil => rw [List.append_nil] at e; exact e.symm
  | cons z zs => exact absurd (hz z (List.mem_cons_self ..)) (h z (by rw [e]; simp))

theorem wsum_zeros {zs : List (Bytes × Nat)} (h : ∀ z ∈ zs, z.2 = 0) : wsum zs = 0 := by
  induction zs with
  | nil => rfl
  | cons e l ih =>
    rw [wsum_cons, ih fun z hz => h z (List.mem_cons_of_mem _ hz), h e (List.mem_cons_self ..)]
theorem cnt_zeros {zs : List (Bytes × Nat)} (h : ∀ z ∈ zs, z.2 = 0) (b : Bytes) : cnt zs b = 0 :=
  Nat.eq_zero_of_le_zero (wsum_zeros h ▸ cnt_le_wsum zs b)

theorem cnt_filter_ne_zero (l : List (Bytes × Nat)) (b : Bytes) : cnt (l.filter (·.2 != 0)) b = cnt l b := by
  have h := cnt_perm (List.filter_append_perm (·.2 != 0) l) b
  rwa [cnt_append, cnt_zeros (zs := l.filter fun x => !(x.2 != 0)) (fun z hz => by simpa using (List.mem_filter.1 hz).2),
    Nat.add_zero] at h
theorem wsum_filter_ne_zero (l : List (Bytes × Nat)) : wsum (l.filter (·.2 != 0)) = wsum l := by
  have h := wsum_perm (List.filter_append_perm (·.2 != 0) l)
  rwa [wsum_append, wsum_zeros (zs := l.filter fun x => !(x.2 != 0)) (fun z hz => by simpa using (List.mem_filter.1 hz).2),
    Nat.add_zero] at h

theorem cnt_stripZ (l : List (Bytes × Nat)) (b : Bytes) : cnt (stripZ l) b = cnt l b := by
  obtain ⟨zs, h1, h2⟩ := stripZ_spec l
  conv => rhs; rw [h1]
  rw [cnt_append, cnt_zeros h2]; rfl
theorem wsum_stripZ (l : List (Bytes × Nat)) : wsum (stripZ l) = wsum l := by
  obtain ⟨zs, h1, h2⟩ := stripZ_spec l
  conv => rhs; rw [h1]
  rw [wsum_append, wsum_zeros h2]; rfl
theorem length_stripZ_le (l : List (Bytes × Nat)) : (stripZ l).length ≤ l.length := by
  simp only [stripZ, List.length_reverse]
  exact (List.dropWhile_sublist _).length_le.trans (by simp)

theorem consStep_weights (acc : List (Bytes × Nat)) (kc : Bytes × Nat) :
    (∀ b, cnt (consStep acc kc) b = cnt acc b + cnt [kc] b) ∧ wsum (consStep acc kc) = wsum acc + kc.2 ∧
    (consStep acc kc).length ≤ acc.length + 1 := by
  obtain ⟨k, c⟩ := kc
  rcases list_nil_or_concat acc with rfl | ⟨ys, ⟨k', c'⟩, rfl⟩
  · rw [consStep_nil]; simp
  · rw [consStep_concat]
    split
    · rename_i h; subst h
      refine ⟨fun b => ?_, ?_, ?_⟩
      · simp only [cnt_append, cnt_cons, cnt_nil]
        split <;> omega
      · simp only [wsum_append, wsum_cons, wsum_nil]; omega
      · simp
    · refine ⟨fun b => ?_, ?_, ?_⟩
      · simp only [cnt_append, cnt_cons, cnt_nil]; omega
      · simp only [wsum_append, wsum_cons, wsum_nil]; omega
      · simp

theorem consStep_foldl_weights : ∀ (l acc : List (Bytes × Nat)),
    (∀ b, cnt (l.foldl consStep acc) b = cnt acc b + cnt l b) ∧
    wsum (l.foldl consStep acc) = wsum acc + wsum l ∧
    (l.foldl consStep acc).length ≤ acc.length + l.length := by
  intro l
  induction l with
  | nil => intro acc; simp
  | cons kc l ih =>
    intro acc
    obtain ⟨h1, h2, h3⟩ := ih (consStep acc kc)
    obtain ⟨s1, s2, s3⟩ := consStep_weights acc kc
    simp only [List.foldl_cons]
    refine ⟨fun b => ?_, ?_, ?_⟩
    · rw [h1, s1]; simp only [cnt_cons, cnt_nil]; omega
    · rw [h2, s2, wsum_cons]; omega
    · simp only [List.length_cons]; omega

/-- the loop invariant that makes the keys distinct: only the last key of `acc` can recur in `rest` -/
structure ConsInv (acc rest : List (Bytes × Nat)) : Prop where
  nodup : KeysNodup acc
  front : ∀ x ∈ acc.dropLast, ∀ y ∈ rest, x.1 ≠ y.1
  le : ∀ x ∈ acc, ∀ y ∈ rest, bytesLt y.1 x.1 = false
  sorted : rest.Pairwise fun a b => bytesLt b.1 a.1 = false

theorem ConsInv.concat_iff {ys rest : List (Bytes × Nat)} {x : Bytes × Nat} : ConsInv (ys ++ [x]) rest ↔
    (KeysNodup ys ∧ ∀ a ∈ ys, a.1 ≠ x.1) ∧ (∀ a ∈ ys, ∀ y ∈ rest, a.1 ≠ y.1) ∧
    ((∀ a ∈ ys, ∀ y ∈ rest, bytesLt y.1 a.1 = false) ∧ ∀ y ∈ rest, bytesLt y.1 x.1 = false) ∧
    rest.Pairwise fun a b => bytesLt b.1 a.1 = false := by
  rw [show ConsInv (ys ++ [x]) rest ↔ _ ∧ _ ∧ _ ∧ _ from
    ⟨fun ⟨a, b, c, d⟩ => ⟨a, b, c, d⟩, fun ⟨a, b, c, d⟩ => ⟨a, b, c, d⟩⟩]
  simp only [KeysNodup, List.dropLast_concat, List.pairwise_append, List.pairwise_cons, List.mem_append, List.mem_cons,
    or_imp, forall_and, forall_eq, List.not_mem_nil, false_imp_iff, implies_true, and_true,
    List.Pairwise.nil, true_and]

theorem ConsInv.step {acc rest : List (Bytes × Nat)} {kc : Bytes × Nat} (h : ConsInv acc (kc :: rest)) :
    ConsInv (consStep acc kc) rest := by
  obtain ⟨k, c⟩ := kc
  rcases list_nil_or_concat acc with rfl | ⟨ys, ⟨k', c'⟩, rfl⟩
  · obtain ⟨h1, h2⟩ := List.pairwise_cons.1 h.sorted
    exact ConsInv.concat_iff (ys := []).2 ⟨⟨.nil, nofun⟩, nofun, ⟨nofun, h1⟩, h2⟩
  · rw [consStep_concat]
    obtain ⟨⟨hnd, hk'⟩, hfront, ⟨hle, hle'⟩, hsorted⟩ := ConsInv.concat_iff.1 h
    simp only [List.mem_cons, or_imp, forall_and, forall_eq, List.pairwise_cons] at hfront hle hle' hsorted
    split
    · rename_i hk
      subst hk
      exact ConsInv.concat_iff.2 ⟨⟨hnd, hk'⟩, hfront.2, ⟨hle.2, hsorted.1⟩, hsorted.2⟩
    · rename_i hk
      rw [show ys ++ [(k', c'), (k, c)] = (ys ++ [(k', c')]) ++ [(k, c)] by simp]
      refine ConsInv.concat_iff.2 ⟨⟨h.nodup, ?_⟩, ?_, ?_, hsorted.2⟩ <;>
        simp only [List.mem_append, List.mem_singleton, or_imp, forall_and, forall_eq]
      · exact ⟨hfront.1, hk⟩
      · -- `k' ≤ k ≤ y.1 = k'` forces `k = k'`
        exact ⟨hfront.2, fun y hy hky => hk (List.le_antisymm
          (bytesLt_false_iff.1 hle'.1) (bytesLt_false_iff.1 (hky ▸ hsorted.1 y hy)))⟩
      · exact ⟨⟨hle.2, hle'.2⟩, hsorted.1⟩

theorem ConsInv.foldl : ∀ {rest acc : List (Bytes × Nat)}, ConsInv acc rest → KeysNodup (rest.foldl consStep acc) := by
  intro rest
  induction rest with
  | nil => intro acc h; exact h.nodup
  | cons kc rest ih => intro acc h; exact ih h.step

theorem consolidate_cnt (l : List (Bytes × Nat)) (b : Bytes) : cnt (consolidate l) b = cnt l b := by
  rw [consolidate_eq, cnt_filter_ne_zero, (consStep_foldl_weights _ []).1 b, cnt_nil, Nat.zero_add,
    cnt_perm (sortBy_perm _ l)]

theorem consolidate_wsum (l : List (Bytes × Nat)) : wsum (consolidate l) = wsum l := by
  rw [consolidate_eq, wsum_filter_ne_zero, (consStep_foldl_weights _ []).2.1, wsum_nil, Nat.zero_add,
    wsum_perm (sortBy_perm _ l)]

theorem consolidate_length_le (l : List (Bytes × Nat)) : (consolidate l).length ≤ l.length := by
  rw [consolidate_eq]
  refine (List.length_filter_le _ _).trans ?_
  have := (consStep_foldl_weights (sortBy (fun x y => bytesLt x.1 y.1) l) []).2.2
  rw [(sortBy_perm _ l).length_eq] at this
  simpa using this

theorem consolidate_nodup (l : List (Bytes × Nat)) : KeysNodup (consolidate l) := by
  rw [consolidate_eq]
  refine List.Pairwise.sublist (List.filter_sublist) ?_
  exact ConsInv.foldl ⟨List.Pairwise.nil, nofun, nofun, sortKey_sorted l⟩

abbrev KeysAsc (l : List (Bytes × Nat)) : Prop := l.Pairwise fun x y => bytesLt x.1 y.1 = true

theorem keysAsc_iff {l : List (Bytes × Nat)} : KeysAsc l ↔ (l.map (·.1)).Pairwise fun x y => bytesLt x y = true :=
  (List.pairwise_map (f := Prod.fst) (R := fun x y => bytesLt x y = true)).symm

theorem KeysAsc.nodup {l : List (Bytes × Nat)} (h : KeysAsc l) : KeysNodup l :=
  h.imp fun {a b} hab e => by rw [e, bytesLt_irrefl] at hab; cases hab

theorem consStep_keys_sublist (acc : List (Bytes × Nat)) (kc : Bytes × Nat) :
    ((consStep acc kc).map (·.1)).Sublist (acc.map (·.1) ++ [kc.1]) := by
  obtain ⟨k, c⟩ := kc
  rcases list_nil_or_concat acc with rfl | ⟨ys, ⟨k', c'⟩, rfl⟩
  · exact List.Sublist.refl _
  · rw [consStep_concat]
    split <;> simp

theorem consStep_foldl_keys_sublist : ∀ (l acc : List (Bytes × Nat)),
    ((l.foldl consStep acc).map (·.1)).Sublist ((acc ++ l).map (·.1)) := by
  intro l
  induction l with
  | nil => intro acc; simp
  | cons kc l ih =>
    intro acc
    refine (ih (consStep acc kc)).trans ?_
    have := (consStep_keys_sublist acc kc).append_right (l.map (·.1))
    simpa using this

theorem consolidate_keysAsc (l : List (Bytes × Nat)) : KeysAsc (consolidate l) := by
  have hle : (consolidate l).Pairwise fun a b => bytesLt b.1 a.1 = false := by
    rw [consolidate_eq]
    refine List.Pairwise.sublist List.filter_sublist
      (List.pairwise_map (f := Prod.fst) (R := fun a b => bytesLt b a = false) |>.1 ?_)
    exact (List.pairwise_map.2 (sortKey_sorted l)).sublist (consStep_foldl_keys_sublist _ [])
  refine (hle.and (consolidate_nodup l)).imp fun {a b} ⟨h1, h2⟩ => ?_
  cases h : bytesLt a.1 b.1 with
  | true => rfl
  | false => exact absurd (List.le_antisymm (bytesLt_false_iff.1 h1) (bytesLt_false_iff.1 h)) h2

theorem mem_iff_cnt {l : List (Bytes × Nat)} (hnd : KeysNodup l) (h0 : ∀ e ∈ l, e.2 ≠ 0) (b : Bytes) (c : Nat) :
    (b, c) ∈ l ↔ c = cnt l b ∧ c ≠ 0 := by
  constructor
  · intro h
    exact ⟨(cnt_of_mem_nodup hnd h).symm, h0 _ h⟩
  · rintro ⟨rfl, hc⟩
    obtain ⟨c, _, h⟩ := exists_mem_of_cnt_pos (l := l) (b := b) (by omega)
    rwa [cnt_of_mem_nodup hnd h]

theorem eq_of_cnt_eq {l l' : List (Bytes × Nat)} (hl : KeysAsc l) (hl' : KeysAsc l') (h0 : ∀ e ∈ l, e.2 ≠ 0)
    (h0' : ∀ e ∈ l', e.2 ≠ 0) (h : ∀ b, cnt l b = cnt l' b) : l = l' := by
  refine List.Perm.eq_of_pairwise (le := fun x y => bytesLt x.1 y.1 = true) (fun a b _ _ hab hba => ?_) hl hl' ?_
  · exact absurd (bytesLt_iff.1 hba) (List.not_lt.2 (List.le_of_lt (bytesLt_iff.1 hab)))
  · refine (List.perm_ext_iff_of_nodup (hl.nodup.imp fun {_ _} hne e => hne (congrArg Prod.fst e))
      (hl'.nodup.imp fun {_ _} hne e => hne (congrArg Prod.fst e))).2 fun ⟨b, c⟩ => ?_
    rw [mem_iff_cnt hl.nodup h0, mem_iff_cnt hl'.nodup h0', h]

theorem consolidate_eq_of {l t : List (Bytes × Nat)} (hs : KeysAsc t) (h0 : ∀ e ∈ t, e.2 ≠ 0)
    (hc : ∀ b, cnt t b = cnt l b) : consolidate l = t :=
  eq_of_cnt_eq (consolidate_keysAsc l) hs (consolidate_ne_zero l) h0 fun b => (consolidate_cnt l b).trans (hc b).symm

theorem mem_consolidate_iff (l : List (Bytes × Nat)) (b : Bytes) (c : Nat) :
    (b, c) ∈ consolidate l ↔ c = cnt l b ∧ c ≠ 0 := by
  rw [mem_iff_cnt (consolidate_nodup l) (consolidate_ne_zero l), consolidate_cnt]

/-- consolidated and sorted by count, descending: what `done` returns and `tidy` starts from -/
abbrev ranked (l : List (Bytes × Nat)) : List (Bytes × Nat) := sortBy (fun x y => y.2 < x.2) (consolidate l)

theorem ranked_perm (l : List (Bytes × Nat)) : (ranked l).Perm (consolidate l) := sortBy_perm _ _
theorem ranked_cnt (l : List (Bytes × Nat)) (b : Bytes) : cnt (ranked l) b = cnt l b := by
  rw [cnt_perm (ranked_perm l), consolidate_cnt]
theorem ranked_wsum (l : List (Bytes × Nat)) : wsum (ranked l) = wsum l := by
  rw [wsum_perm (ranked_perm l), consolidate_wsum]
theorem ranked_length_le (l : List (Bytes × Nat)) : (ranked l).length ≤ l.length := by
  rw [(ranked_perm l).length_eq]; exact consolidate_length_le l
theorem ranked_nodup (l : List (Bytes × Nat)) : KeysNodup (ranked l) :=
  ((ranked_perm l).pairwise_iff (fun {a b} (h : a.1 ≠ b.1) => h.symm)).2 (consolidate_nodup l)
theorem ranked_ne_zero (l : List (Bytes × Nat)) : ∀ e ∈ ranked l, e.2 ≠ 0 :=
  fun e he => consolidate_ne_zero l e ((ranked_perm l).mem_iff.1 he)
theorem ranked_sorted (l : List (Bytes × Nat)) : (ranked l).Pairwise fun a b => b.2 ≤ a.2 := sortDesc_sorted _

theorem ranked_eq_of {l t : List (Bytes × Nat)} (hs : KeysAsc t) (hd : t.Pairwise fun a b => b.2 ≤ a.2)
    (h0 : ∀ e ∈ t, e.2 ≠ 0) (hc : ∀ b, cnt t b = cnt l b) : ranked l = t := by
  rw [ranked, consolidate_eq_of hs h0 hc]
  exact sortBy_eq_self _ (hd.imp fun h => by simpa using h)

def MG.tidyK (k : Nat) (m : MG) : MG :=
  let l := ranked m.inner
  if l.length > k then
    let sub := (l[k]!).2 - 1
    let l := (l.take k).map fun (b, w) => (b, w - sub)
    ⟨(l.reverse.dropWhile (·.2 == 0)).reverse⟩
  else ⟨l⟩

def MG.updateK (cap : Nat) (m : MG) (b : Bytes) (c : Nat) : MG :=
  let m' : MG := ⟨m.inner ++ [(b, c)]⟩
  if m'.inner.length == cap then m'.tidyK (cap / 2) else m'

theorem MG.tidy_eq_tidyK (m : MG) : m.tidy = m.tidyK MG.k := rfl
theorem MG.update_eq_updateK (m : MG) (b : Bytes) (c : Nat) : m.update b c = m.updateK MG.cap b c := rfl

/-- ghost: the largest weight a single key can lose in this compaction, `l[k].2` (= `sub + 1`) if anything
is dropped, else `0` -/
def MG.tidyLoss (k : Nat) (m : MG) : Nat :=
  let l := ranked m.inner
  if l.length > k then (l[k]!).2 else 0

theorem MG.tidyK_of_le {k : Nat} {m : MG} (h : (ranked m.inner).length ≤ k) :
    m.tidyK k = ⟨ranked m.inner⟩ ∧ m.tidyLoss k = 0 := by
  unfold MG.tidyK MG.tidyLoss
  rw [if_neg (by omega), if_neg (by omega)]
  exact ⟨rfl, rfl⟩

theorem exists_split_of_lt {α} {l : List α} {k : Nat} (h : k < l.length) :
    ∃ l₁ e l₂, l = l₁ ++ e :: l₂ ∧ l₁.length = k :=
  ⟨l.take k, l[k], l.drop (k + 1), by rw [← List.drop_eq_getElem_cons h, List.take_append_drop],
    by rw [List.length_take]; omega⟩

theorem MG.tidyK_of_ranked {k : Nat} {m : MG} {l₁ l₂ : List (Bytes × Nat)} {e : Bytes × Nat}
    (h : ranked m.inner = l₁ ++ e :: l₂) (hk : l₁.length = k) :
    m.tidyK k = ⟨stripZ (subAll (e.2 - 1) l₁)⟩ ∧ m.tidyLoss k = e.2 := by
  have hlen : k < (ranked m.inner).length := by
    rw [h, List.length_append, List.length_cons]
    omega
  have he : (ranked m.inner)[k]! = e := by
    rw [getElem!_pos _ k hlen]
    simp [h, ← hk]
  have ht : (ranked m.inner).take k = l₁ := by simp [h, ← hk]
  unfold MG.tidyK MG.tidyLoss
  rw [if_pos hlen, if_pos hlen, he, ht]
  exact ⟨rfl, rfl⟩

theorem drop_core {l₁ l₂ : List (Bytes × Nat)} {e : Bytes × Nat} (hnd : KeysNodup (l₁ ++ e :: l₂))
    (hs : (l₁ ++ e :: l₂).Pairwise fun a b => b.2 ≤ a.2) (hpos : e.2 ≠ 0) :
    (∀ b, cnt (subAll (e.2 - 1) l₁) b ≤ cnt (l₁ ++ e :: l₂) b ∧
          cnt (l₁ ++ e :: l₂) b ≤ cnt (subAll (e.2 - 1) l₁) b + e.2) ∧
    wsum (subAll (e.2 - 1) l₁) + (l₁.length + 1) * e.2 ≤ wsum (l₁ ++ e :: l₂) + l₁.length := by
  obtain ⟨hnd1, hnd2, _⟩ := List.pairwise_append.1 hnd
  obtain ⟨_, hs2, h1⟩ := List.pairwise_append.1 hs
  refine ⟨fun b => ⟨?_, ?_⟩, ?_⟩
  · have := cnt_subAll_le (e.2 - 1) l₁ b
    rw [cnt_append]; omega
  · have hA := cnt_le_subAll (s := e.2 - 1) hnd1 b
    have hB : cnt (e :: l₂) b ≤ e.2 :=
      cnt_le_of_nodup hnd2 (List.forall_mem_cons.2 ⟨Nat.le_refl _, (List.pairwise_cons.1 hs2).1⟩) b
    rw [cnt_append]
    rcases cnt_append_nodup hnd b with h0 | h0 <;> omega
  · have hW := wsum_subAll (s := e.2 - 1) (l := l₁) (fun x hx => by have := h1 x hx e (List.mem_cons_self ..); omega)
    rw [wsum_append, wsum_cons]
    have hd : e.2 = (e.2 - 1) + 1 := by omega
    generalize e.2 - 1 = s at hW hd ⊢
    rw [hd]
    have : (l₁.length + 1) * (s + 1) = s * l₁.length + l₁.length + s + 1 := by ring
    omega

theorem MG.tidyK_spec (k : Nat) (m : MG) :
    (∀ b, cnt (m.tidyK k).inner b ≤ cnt m.inner b ∧ cnt m.inner b ≤ cnt (m.tidyK k).inner b + m.tidyLoss k) ∧
    (2 * k ≤ m.inner.length →
      (k + 1) * m.tidyLoss k + wsum (m.tidyK k).inner + (m.tidyK k).inner.length ≤ wsum m.inner + m.inner.length) ∧
    wsum (m.tidyK k).inner ≤ wsum m.inner := by
  by_cases h : (ranked m.inner).length ≤ k
  · have hl := ranked_length_le m.inner
    simp only [MG.tidyK_of_le h, ranked_cnt, ranked_wsum]
    exact ⟨fun b => by omega, fun _ => by omega, Nat.le_refl _⟩
  · obtain ⟨l₁, e, l₂, hsplit, rfl⟩ := exists_split_of_lt (by omega : k < (ranked m.inner).length)
    have hpos := ranked_ne_zero m.inner e (by rw [hsplit]; simp)
    obtain ⟨hc, hw⟩ := drop_core (hsplit ▸ ranked_nodup m.inner) (hsplit ▸ ranked_sorted m.inner) hpos
    have hsl := length_stripZ_le (subAll (e.2 - 1) l₁)
    rw [List.length_map] at hsl
    simp only [MG.tidyK_of_ranked hsplit rfl, cnt_stripZ, wsum_stripZ, ← ranked_cnt m.inner, ← ranked_wsum m.inner,
      hsplit]
    have : l₁.length + 1 ≤ (l₁.length + 1) * e.2 := Nat.le_mul_of_pos_right _ (by omega)
    exact ⟨hc, fun h2k => by omega, by omega⟩

def MG.stepG (cap : Nat) (s : MG × Nat) (bc : Bytes × Nat) : MG × Nat :=
  let m' : MG := ⟨s.1.inner ++ [bc]⟩
  if m'.inner.length == cap then (m'.tidyK (cap / 2), s.2 + m'.tidyLoss (cap / 2)) else (m', s.2)

theorem MG.stepG_fst (cap : Nat) (s : MG × Nat) (bc : Bytes × Nat) :
    (MG.stepG cap s bc).1 = s.1.updateK cap bc.1 bc.2 := by
  unfold MG.stepG MG.updateK
  dsimp only
  split <;> rfl

structure MGInv (k : Nat) (ops : List (Bytes × Nat)) (m : MG) (D : Nat) : Prop where
  le : ∀ b, cnt m.inner b ≤ cnt ops b
  ge : ∀ b, cnt ops b ≤ cnt m.inner b + D
  pot : (k + 1) * D + wsum m.inner + m.inner.length ≤ wsum ops + ops.length
  wle : wsum m.inner ≤ wsum ops

theorem MGInv.init (k : Nat) : MGInv k [] ⟨[]⟩ 0 :=
  ⟨fun _ => Nat.le_refl _, fun _ => Nat.le_refl _, by simp, Nat.le_refl _⟩

theorem MGInv.append {k : Nat} {ops : List (Bytes × Nat)} {m : MG} {D : Nat} (h : MGInv k ops m D) (bc : Bytes × Nat) :
    MGInv k (ops ++ [bc]) ⟨m.inner ++ [bc]⟩ D := by
  obtain ⟨hle, hge, hpot, hwle⟩ := h
  refine ⟨fun b => ?_, fun b => ?_, ?_, ?_⟩
  · have := hle b; simp only [cnt_append]; omega
  · have := hge b; simp only [cnt_append]; omega
  · simp only [wsum_append, List.length_append, wsum_cons, wsum_nil, List.length_singleton]; omega
  · simp only [wsum_append]; omega

theorem MGInv.tidy {k : Nat} {ops : List (Bytes × Nat)} {m : MG} {D : Nat} (h : MGInv k ops m D)
    (hlen : 2 * k ≤ m.inner.length) : MGInv k ops (m.tidyK k) (D + m.tidyLoss k) := by
  obtain ⟨hle, hge, hpot, hwle⟩ := h
  obtain ⟨t1, t2, t4⟩ := MG.tidyK_spec k m
  have t2 := t2 hlen
  refine ⟨fun b => ?_, fun b => ?_, ?_, ?_⟩
  · have := (t1 b).1; have := hle b; omega
  · have := (t1 b).2; have := hge b; omega
  · rw [Nat.mul_add]; omega
  · omega

theorem MGInv.step {cap : Nat} {ops : List (Bytes × Nat)} {m : MG} {D : Nat} (h : MGInv (cap / 2) ops m D)
    (bc : Bytes × Nat) : MGInv (cap / 2) (ops ++ [bc]) (MG.stepG cap (m, D) bc).1 (MG.stepG cap (m, D) bc).2 := by
  unfold MG.stepG
  dsimp only
  split
  · rename_i hcap
    have hcap : (m.inner ++ [bc]).length = cap := by simpa using hcap
    exact (h.append bc).tidy (by dsimp only; omega)
  · exact h.append bc

def MG.runGK (cap : Nat) (ops : List (Bytes × Nat)) : MG × Nat := ops.foldl (MG.stepG cap) (⟨[]⟩, 0)
def MG.runK (cap : Nat) (ops : List (Bytes × Nat)) : MG := ops.foldl (fun m (b, c) => m.updateK cap b c) ⟨[]⟩

theorem MG.runGK_fst (cap : Nat) (ops : List (Bytes × Nat)) : (MG.runGK cap ops).1 = MG.runK cap ops :=
  (List.foldl_hom Prod.fst (g₁ := MG.stepG cap) (g₂ := fun m (b, c) => m.updateK cap b c) (l := ops)
    (fun s bc => (MG.stepG_fst cap s bc).symm)).symm

theorem MGInv.foldl {cap : Nat} : ∀ (ops pre : List (Bytes × Nat)) (s : MG × Nat), MGInv (cap / 2) pre s.1 s.2 →
    MGInv (cap / 2) (pre ++ ops) (ops.foldl (MG.stepG cap) s).1 (ops.foldl (MG.stepG cap) s).2 := by
  intro ops
  induction ops with
  | nil => intro pre s h; simpa using h
  | cons bc ops ih =>
    intro pre s h
    have := ih (pre ++ [bc]) (MG.stepG cap s bc) (h.step bc)
    simpa using this

theorem MG.runGK_inv (cap : Nat) (ops : List (Bytes × Nat)) :
    MGInv (cap / 2) ops (MG.runK cap ops) (MG.runGK cap ops).2 := by
  have := MGInv.foldl (cap := cap) ops [] (⟨[]⟩, 0) (MGInv.init _)
  rw [← MG.runGK_fst]
  simpa [MG.runGK] using this

/-- the invariant with the ghost eliminated, for every capacity -/
theorem MG.runK_bound (cap : Nat) (ops : List (Bytes × Nat)) (b : Bytes) :
    (cap / 2 + 1) * cnt ops b + wsum (MG.runK cap ops).inner + (MG.runK cap ops).inner.length ≤
      (cap / 2 + 1) * cnt (MG.runK cap ops).inner b + wsum ops + ops.length := by
  obtain ⟨_, hge, hpot, _⟩ := MG.runGK_inv cap ops
  have h := Nat.mul_le_mul_left (cap / 2 + 1) (hge b)
  rw [Nat.mul_add] at h
  generalize cap / 2 + 1 = K at *
  generalize (MG.runGK cap ops).2 = D at *
  omega

def MG.runFromK (cap : Nat) (m : MG) (ops : List (Bytes × Nat)) : MG := ops.foldl (fun m (b, c) => m.updateK cap b c) m

theorem MG.runK_eq_runFromK (cap : Nat) (ops : List (Bytes × Nat)) : MG.runK cap ops = MG.runFromK cap ⟨[]⟩ ops := rfl

theorem MG.runFromK_append (cap : Nat) (m : MG) (l l' : List (Bytes × Nat)) :
    MG.runFromK cap m (l ++ l') = MG.runFromK cap (MG.runFromK cap m l) l' := List.foldl_append

theorem MG.updateK_of_lt {cap : Nat} {m : MG} {b : Bytes} {c : Nat} (h : m.inner.length + 1 < cap) :
    m.updateK cap b c = ⟨m.inner ++ [(b, c)]⟩ := by
  rw [MG.updateK, if_neg]
  simp only [List.length_append, List.length_singleton, beq_iff_eq]
  omega

theorem MG.runFromK_of_lt {cap : Nat} (l : List (Bytes × Nat)) (m : MG) (h : m.inner.length + l.length < cap) :
    MG.runFromK cap m l = ⟨m.inner ++ l⟩ :=
  MG.foldl_of_lt (fun _ _ h => MG.updateK_of_lt h) l m h

theorem MG.runFromK_of_eq {cap : Nat} {l : List (Bytes × Nat)} {m : MG} (hl : l ≠ [])
    (h : m.inner.length + l.length = cap) : MG.runFromK cap m l = (⟨m.inner ++ l⟩ : MG).tidyK (cap / 2) := by
  obtain ⟨l', e, rfl⟩ := (List.eq_nil_or_concat l).resolve_left hl
  simp only [List.concat_eq_append, List.length_append, List.length_cons, List.length_nil] at h
  rw [List.concat_eq_append, MG.runFromK_append, MG.runFromK_of_lt l' m (by omega)]
  show MG.updateK cap _ e.1 e.2 = _
  unfold MG.updateK
  simp only [List.length_append, List.length_cons, List.length_nil, beq_iff_eq, List.append_assoc]
  rw [if_pos (by omega)]

/-! ### the crate's summary (`cap = MG.cap`, `k = MG.k = MG.cap / 2`; 1024 and 512 in the crate as verified) -/

abbrev trueCount (ops : List (Bytes × Nat)) (b : Bytes) : Nat := cnt ops b
abbrev total (ops : List (Bytes × Nat)) : Nat := wsum ops
abbrev est (m : MG) (b : Bytes) : Nat := cnt m.inner b

def MG.runFrom (m : MG) (ops : List (Bytes × Nat)) : MG := ops.foldl (fun m (b, c) => m.update b c) m
/-- the summary after inserting `ops` into `MisraGries::default()` -/
def run (ops : List (Bytes × Nat)) : MG := MG.runFrom ⟨[]⟩ ops
def runG (ops : List (Bytes × Nat)) : MG × Nat := MG.runGK MG.cap ops

theorem run_eq_runK (ops : List (Bytes × Nat)) : run ops = MG.runK MG.cap ops := rfl
theorem runG_fst (ops : List (Bytes × Nat)) : (runG ops).1 = run ops := MG.runGK_fst MG.cap ops

theorem mg_invariant (ops : List (Bytes × Nat)) : MGInv MG.k ops (run ops) (runG ops).2 :=
  MG.runGK_inv MG.cap ops

theorem est_consolidate (m : MG) (b : Bytes) : cnt (consolidate m.inner) b = est m b := consolidate_cnt _ _
theorem est_done (m : MG) (b : Bytes) : cnt m.done b = est m b := ranked_cnt _ _

theorem MG.mem_done_iff (m : MG) (b : Bytes) (c : Nat) : (b, c) ∈ m.done ↔ c = est m b ∧ c ≠ 0 := by
  rw [MG.done, mem_sortBy, mem_consolidate_iff]

theorem MG.done_nodup (m : MG) : KeysNodup m.done := ranked_nodup _
theorem MG.done_sorted (m : MG) : m.done.Pairwise fun a b => b.2 ≤ a.2 := ranked_sorted _
theorem MG.done_wsum (m : MG) : wsum m.done = wsum m.inner := ranked_wsum _
theorem MG.done_length_le (m : MG) : m.done.length ≤ m.inner.length := ranked_length_le _

theorem wsum_ge_of_all_ge {l : List (Bytes × Nat)} {c : Nat} (h : ∀ x ∈ l, c ≤ x.2) : c * l.length ≤ wsum l := by
  induction l with
  | nil => simp
  | cons e l ih =>
    have := ih fun x hx => h x (List.mem_cons_of_mem _ hx)
    have := h e (List.mem_cons_self ..)
    simp only [List.length_cons, wsum_cons, Nat.mul_succ]; omega

theorem length_le_wsum {ops : List (Bytes × Nat)} (h : ∀ e ∈ ops, e.2 ≠ 0) : ops.length ≤ wsum ops := by
  simpa using wsum_ge_of_all_ge (c := 1) fun x hx => Nat.pos_of_ne_zero (h x hx)

/-- the invariant looks through a summary: where the insertions contain the `done` list of a summary `m` of `ops`,
they may be replaced by `ops` themselves; the error budgets add up -/
theorem MGInv.subst {k : Nat} {ops pre post : List (Bytes × Nat)} {m M : MG} {D D' : Nat}
    (h : MGInv k ops m D) (hM : MGInv k (pre ++ m.done ++ post) M D') : MGInv k (pre ++ ops ++ post) M (D + D') := by
  obtain ⟨hle, hge, hpot, hwle⟩ := h
  obtain ⟨hle', hge', hpot', hwle'⟩ := hM
  have hl := MG.done_length_le m
  simp only [cnt_append, wsum_append, List.length_append, est_done, MG.done_wsum, est] at *
  refine ⟨fun b => ?_, fun b => ?_, ?_, ?_⟩
  · have := hle b
    have := hle' b
    simp only [cnt_append]
    omega
  · have := hge b
    have := hge' b
    simp only [cnt_append]
    omega
  · simp only [wsum_append, List.length_append, Nat.mul_add]
    omega
  · simp only [wsum_append]
    omega

/-- Misra–Gries summaries compose without extra loss: the summary that `new_from` builds from the `done` lists of the
sources' summaries satisfies the invariant with respect to everything inserted into the sources -/
theorem mg_invariant_merge (opss : List (List (Bytes × Nat))) :
    MGInv MG.k opss.flatten (run (opss.map fun o => (run o).done).flatten)
      ((opss.map fun o => (runG o).2).sum + (runG (opss.map fun o => (run o).done).flatten).2) := by
  suffices key : ∀ (opss : List (List (Bytes × Nat))) (pre : List (Bytes × Nat)) (M : MG) (D : Nat),
      MGInv MG.k (pre ++ (opss.map fun o => (run o).done).flatten) M D →
      MGInv MG.k (pre ++ opss.flatten) M ((opss.map fun o => (runG o).2).sum + D) by
    simpa using key opss [] _ _ (mg_invariant _)
  intro opss
  induction opss with
  | nil => intro pre M D h; simpa using h
  | cons o opss ih =>
    intro pre M D h
    have := ih (pre ++ o) M _ ((mg_invariant o).subst (by simpa using h))
    simpa [Nat.add_left_comm, Nat.add_assoc] using this

theorem mem_take_of_heavy {l : List (Bytes × Nat)} (hs : l.Pairwise fun a b => b.2 ≤ a.2) {e : Bytes × Nat}
    (he : e ∈ l) {F : Nat} (h : wsum l < (F + 1) * e.2) : e ∈ l.take F := by
  rw [← List.take_append_drop F l] at he hs
  rcases List.mem_append.1 he with he | he
  · exact he
  · exfalso
    obtain ⟨_, _, h3⟩ := List.pairwise_append.1 hs
    have h1 := wsum_ge_of_all_ge (l := l.take F) (c := e.2) fun x hx => h3 x hx e he
    have hlen : (l.take F).length = F := by
      rw [List.length_take]
      have : 0 < (l.drop F).length := List.length_pos_of_mem he
      rw [List.length_drop] at this
      omega
    have h2 : e.2 ≤ wsum (l.drop F) := by
      obtain ⟨s, t, hst⟩ := List.append_of_mem he
      rw [hst, wsum_append, wsum_cons]; omega
    have h4 : wsum l = wsum (l.take F) + wsum (l.drop F) := by
      rw [← wsum_append, List.take_append_drop]
    rw [hlen] at h1
    have : (F + 1) * e.2 = e.2 * F + e.2 := by ring
    omega

/-- the insertions `encode` performs for the pushed strings `bs`: one unit per non-empty string -/
abbrev pushOps (bs : List Bytes) : List (Bytes × Nat) := (bs.filter (· ≠ [])).map (·, 1)

theorem pushOps_cnt (bs : List Bytes) {b : Bytes} (hb : b ≠ []) : cnt (pushOps bs) b = bs.count b := by
  rw [pushOps, cnt_map_const, Nat.mul_one, List.count_filter (by simpa using hb)]

theorem pushOps_wsum (bs : List Bytes) : wsum (pushOps bs) = (pushOps bs).length := by
  rw [pushOps, wsum_map_const, Nat.mul_one, List.length_map]

theorem pushOps_length_le (bs : List Bytes) : (pushOps bs).length ≤ bs.length := by
  simp only [pushOps, List.length_map]
  exact List.length_filter_le _ _

theorem mergedMG_eq_run (srcs : List Dict) : mergedMG srcs = run (srcs.map (·.mg.done)).flatten :=
  mergedMG_eq_foldl srcs

theorem Dict.observe_foldl_mg_runFrom (bs : List Bytes) (d : Dict) :
    (bs.foldl Dict.observe d).mg = MG.runFrom d.mg (pushOps bs) :=
  Dict.observe_foldl_mg_eq_foldl_update bs d

theorem Dict.observe_foldl_mg_run (bs : List Bytes) (d : Dict) (h0 : d.mg = ⟨[]⟩) :
    (bs.foldl Dict.observe d).mg = run (pushOps bs) := by
  rw [Dict.observe_foldl_mg_runFrom, h0]; rfl

end FC.Codec
