import FlatModel.Props.C06
import FlatModel.Proofs.HuffStats
import FlatModel.Proofs.Consec
import FlatModel.Proofs.OpsLaws
import FlatModel.Model.Coded
/-! The Huffman containers are lawful regions.

Ghost fields (Model/HuffSpec.lean): raw mode — no invariant, an index is valid iff it is a range of `raw`,
every item is accepted; coded mode `(c, bytes, bits)` — `EncOK c ∧ TableOK c ∧ WFStore bytes bits`,
an index is valid iff it denotes a concatenation of code words within the valid bits, an item is
accepted iff every symbol has a code. The laws are the bit-level theorems of Props/C06Bits.lean. -/
namespace FC.Huff
open FC FC.C06

theorem Container.inv_raw {h : Container} (hr : h.coded = none) : h.Inv := by
  simp only [Container.Inv, hr]
theorem Container.inv_coded {h : Container} {c : Code} {bytes : List Nat} {bits : Nat}
    (hc : h.coded = some (c, bytes, bits)) : h.Inv ↔ (EncOK c ∧ TableOK c ∧ WFStore bytes bits) := by
  simp only [Container.Inv, hc, CodedInv]
theorem Container.valid_raw {h : Container} (hr : h.coded = none) (i : Nat × Nat) :
    h.Valid i ↔ (i.1 ≤ i.2 ∧ i.2 ≤ h.raw.length) := by
  simp only [Container.Valid, hr]
theorem Container.valid_coded {h : Container} {c : Code} {bytes : List Nat} {bits : Nat}
    (hc : h.coded = some (c, bytes, bits)) (i : Nat × Nat) : h.Valid i ↔ ∃ w, Denotes c bytes bits i w := by
  simp only [Container.Valid, hc]; rfl
theorem Container.accepts_raw {h : Container} (hr : h.coded = none) (v : List Nat) : h.Accepts v := by
  simp only [Container.Accepts, hr]
theorem Container.accepts_coded {h : Container} {c : Code} {bytes : List Nat} {bits : Nat}
    (hc : h.coded = some (c, bytes, bits)) (v : List Nat) : h.Accepts v ↔ ∀ s ∈ v, (c.lookup s).isSome := by
  simp only [Container.Accepts, hc]

def Container.cursor (h : Container) : Nat :=
  match h.coded with | none => h.raw.length | some (_, _, bits) => bits

theorem Container.cursor_eq (h : Container) : DenseRegion.cursor h = h.cursor := rfl

theorem Container.push_ok (h : Container) (v : List Nat) (hi : h.Inv) (ha : h.Accepts v) :
    ∃ h' i, h.push v = some (h', i) ∧ h'.index i = some v := by
  rcases hcd : h.coded with _ | ⟨c, bytes, bits⟩
  · obtain ⟨h', hp, -, -, hx⟩ := raw_mode h v hcd
    exact ⟨h', _, hp, hx⟩
  · obtain ⟨he, ht, hwf⟩ := (Container.inv_coded hcd).1 hi
    have hk := (Container.accepts_coded hcd v).1 ha
    have hs := accepts_known h c bytes bits v hcd (he.on v) hwf hk
    obtain ⟨⟨h', i⟩, hp⟩ := Option.isSome_iff_exists.1 hs
    exact ⟨h', i, hp, roundtrip_coded h h' c bytes bits v i hcd (he.on v) ht hwf hp⟩

theorem Container.push_refuses (h : Container) (v : List Nat) (ha : ¬ h.Accepts v) : h.push v = none := by
  rcases hcd : h.coded with _ | ⟨c, bytes, bits⟩
  · exact absurd (Container.accepts_raw hcd v) ha
  · simp only [Container.accepts_coded hcd v, not_forall, Option.not_isSome_iff_eq_none] at ha
    obtain ⟨s, hs, hl⟩ := ha
    exact refuses_unknown h c bytes bits v s hcd hs hl

theorem Container.push_raw {h h' : Container} {v : List Nat} {i : Nat × Nat} (hr : h.coded = none)
    (hp : h.push v = some (h', i)) :
    h'.coded = none ∧ h'.raw = h.raw ++ v ∧ i = (h.raw.length, h.raw.length + v.length) ∧ h'.index i = some v := by
  obtain ⟨h'', hp', hraw', hr', hx⟩ := raw_mode h v hr
  cases hp.symm.trans hp'
  exact ⟨hraw', hr', rfl, hx⟩

theorem Container.push_post {h h' : Container} {v : List Nat} {i : Nat × Nat} (hp : h.push v = some (h', i))
    (hi : h.Inv) : Region.PushPost h v h' i := by
  rcases hcd : h.coded with _ | ⟨c, bytes, bits⟩
  · obtain ⟨hraw', hr', rfl, hx⟩ := Container.push_raw hcd hp
    refine ⟨Container.inv_raw hraw', (Container.valid_raw hraw' _).2 ?_, ⟨v, hx, rfl⟩, fun j hv => ?_⟩
    · rw [hr']; simp
    · have hj := (Container.valid_raw hcd j).1 hv
      refine ⟨(Container.valid_raw hraw' _).2 ⟨hj.1, ?_⟩, raw_frame h h' v _ j hcd hp hj⟩
      rw [hr', List.length_append]; omega
  · obtain ⟨he, ht, hwf⟩ := (Container.inv_coded hcd).1 hi
    obtain ⟨bytes', bits', hcd', hwf', -, hd, hfr⟩ := push_coded h h' c bytes bits v i hcd (he.on v) hwf hp
    refine ⟨(Container.inv_coded hcd').2 ⟨he, ht, hwf'⟩, (Container.valid_coded hcd' i).2 ⟨v, hd⟩,
      ⟨v, index_of_denotes h' c bytes' bits' i v hcd' ht hwf' hd, rfl⟩, fun j hv => ?_⟩
    obtain ⟨w, hw⟩ := (Container.valid_coded hcd j).1 hv
    exact ⟨(Container.valid_coded hcd' j).2 ⟨w, hfr j w hw⟩,
      (index_of_denotes h' c bytes' bits' j w hcd' ht hwf' (hfr j w hw)).trans
        (index_of_denotes h c bytes bits j w hcd ht hwf hw).symm⟩

theorem Container.valid_reads (h : Container) (j : Nat × Nat) (hi : h.Inv) (hv : h.Valid j) :
    ∃ u, h.index j = some u := by
  rcases hcd : h.coded with _ | ⟨c, bytes, bits⟩
  · have hj := (Container.valid_raw hcd j).1 hv
    exact ⟨(h.raw.drop j.1).take (j.2 - j.1), by rw [Container.index_eq_of_raw hcd, if_pos hj]⟩
  · obtain ⟨-, ht, hwf⟩ := (Container.inv_coded hcd).1 hi
    obtain ⟨w, hw⟩ := (Container.valid_coded hcd j).1 hv
    exact ⟨w, index_of_denotes h c bytes bits j w hcd ht hwf hw⟩

theorem Container.push_dense (h h' : Container) (v : List Nat) (i : Nat × Nat) (hi : h.Inv)
    (hp : h.push v = some (h', i)) : i = (h.cursor, h'.cursor) := by
  rcases hcd : h.coded with _ | ⟨c, bytes, bits⟩
  · obtain ⟨hraw', hr', rfl, -⟩ := Container.push_raw hcd hp
    simp only [Container.cursor, hcd, hraw', hr', List.length_append]
  · obtain ⟨he, -, hwf⟩ := (Container.inv_coded hcd).1 hi
    obtain ⟨rfl, bytes', hcd', -⟩ := bits_eq_sum h h' c bytes bits v i hcd (he.on v) hwf hp
    simp only [Container.cursor, hcd, hcd']

theorem Container.clear_eq (h : Container) : h.clear = Container.default := rfl

end FC.Huff

namespace FC
open Region Huff

/-! ### `Huff.Container`: symbols are `Nat` (the crate's `u16` instance is what the driver exercises) -/

instance huffLawfulRegion : LawfulRegion Huff.Container where
  inv_default := Container.inv_raw rfl
  push_ok r v hi ha := by
    obtain ⟨r', i, hp, hx⟩ := Container.push_ok r v hi ha
    exact ⟨r', i, hp, v, hx, rfl⟩
  push_refuses r v _ ha := Container.push_refuses r v ha
  push_inv r r' v i hi hp := ⟨(Container.push_post hp hi).inv, (Container.push_post hp hi).valid⟩
  frame r r' v i j hi hv hp := (Container.push_post hp hi).extends_ j hv
  valid_reads r j hi hv := Container.valid_reads r j hi hv
  clear_inv _ _ := Container.inv_raw rfl
  clear_sim _ _ := rfl
  sim_refl _ _ := rfl
  sim_push a b v hs _ _ := by
    cases (show a = b from hs)
    cases hp : push a v with
    | none => exact Or.inl ⟨rfl, rfl⟩
    | some p => exact Or.inr ⟨p.1, p.1, p.2, rfl, rfl, rfl⟩
  sim_index a b i hs _ _ := by
    cases (show a = b from hs)
    exact ⟨Iff.rfl, fun _ => rfl⟩

instance huffLawfulDense : LawfulDense Huff.Container where
  cursor_default := rfl
  cursor_clear _ := rfl
  push_dense r r' v i hi hp := Container.push_dense r r' v i hi hp

instance huffDenseSim : DenseSim Huff.Container where
  cursor_sim a b hs := by cases (show a = b from hs); rfl

/-! ### `HuffmanContainer<u8>` (symbols are bytes) -/

theorem map_ofNat_toNat (v : List UInt8) : (v.map UInt8.toNat).map UInt8.ofNat = v := by
  induction v with
  | nil => rfl
  | cons b bs ih => simp only [List.map_cons, ih, UInt8.ofNat_toNat]

theorem HuffU8.push_def (h : HuffU8) (v : List UInt8) :
    push h v = (Huff.Container.push h.c (v.map UInt8.toNat)).map fun (c, i) => (⟨c⟩, i) := rfl
theorem HuffU8.index_def (h : HuffU8) (i : Nat × Nat) :
    index h i = (Huff.Container.index h.c i).map fun xs => xs.map UInt8.ofNat := rfl

theorem HuffU8.push_some {h h' : HuffU8} {v : List UInt8} {i : Nat × Nat} (hp : push h v = some (h', i)) :
    Huff.Container.push h.c (v.map UInt8.toNat) = some (h'.c, i) := by
  rw [HuffU8.push_def, Option.map_eq_some_iff] at hp
  obtain ⟨p, hq, he⟩ := hp
  cases he
  exact hq

instance huffU8LawfulRegion : LawfulRegion HuffU8 where
  inv_default := Container.inv_raw rfl
  push_ok r v hi ha := by
    obtain ⟨c', i, hp, hx⟩ := Container.push_ok r.c (v.map UInt8.toNat) hi ha
    refine ⟨⟨c'⟩, i, ?_, v, ?_, rfl⟩
    · rw [HuffU8.push_def, hp]; rfl
    · rw [HuffU8.index_def, hx, Option.map_some, map_ofNat_toNat]
  push_refuses r v _ ha := by
    rw [HuffU8.push_def, Container.push_refuses r.c (v.map UInt8.toNat) ha]; rfl
  push_inv r r' v i hi hp :=
    ⟨(Container.push_post (HuffU8.push_some hp) hi).inv, (Container.push_post (HuffU8.push_some hp) hi).valid⟩
  frame r r' _ i j hi hv hp := by
    obtain ⟨h1, h2⟩ := (Container.push_post (HuffU8.push_some hp) hi).extends_ j hv
    exact ⟨h1, congrArg (Option.map fun xs => xs.map UInt8.ofNat) h2⟩
  valid_reads r j hi hv := by
    obtain ⟨u, hu⟩ := Container.valid_reads r.c j hi hv
    exact ⟨u.map UInt8.ofNat, by rw [HuffU8.index_def, hu]; rfl⟩
  clear_inv _ _ := Container.inv_raw rfl
  clear_sim _ _ := rfl
  sim_refl _ _ := rfl
  sim_push a b v hs _ _ := by
    obtain ⟨a⟩ := a; obtain ⟨b⟩ := b
    cases (show a = b from hs)
    cases hp : push (⟨a⟩ : HuffU8) v with
    | none => exact Or.inl ⟨rfl, rfl⟩
    | some p => exact Or.inr ⟨p.1, p.1, p.2, rfl, rfl, rfl⟩
  sim_index a b i hs _ _ := by
    obtain ⟨a⟩ := a; obtain ⟨b⟩ := b
    cases (show a = b from hs)
    exact ⟨Iff.rfl, fun _ => rfl⟩

instance huffU8LawfulDense : LawfulDense HuffU8 where
  cursor_default := rfl
  cursor_clear _ := rfl
  push_dense r r' _ i hi hp := Container.push_dense r.c r'.c _ i hi (HuffU8.push_some hp)

instance huffU8DenseSim : DenseSim HuffU8 where
  cursor_sim a b hs := by
    obtain ⟨a⟩ := a; obtain ⟨b⟩ := b
    cases (show a = b from hs); rfl

theorem Huff.Container.merge_inv (srcs : List Huff.Container)
    (hv : Huff.Valid (srcs.foldl (fun acc h => mergeStats acc h.stats) []))
    (hdepth : ∀ x ∈ (C06.mergedCode srcs).encode, x.2.1 ≤ 57) :
    Inv (Huff.Container.merge srcs) := by
  have hg : C06.GoodCode (C06.mergedCode srcs) := C06.createFrom_good _ hv hdepth
  obtain ⟨h1, h2⟩ := C06.createFrom_ok _ hg
  exact (Container.inv_coded (C06.merge_coded srcs)).2 ⟨h1, h2, C06.wfStore_empty⟩

theorem Huff.Container.merge_inv_reachable (srcs : List Huff.Container) (hr : ∀ s ∈ srcs, Huff.Built s)
    (hdepth : ∀ x ∈ (C06.mergedCode srcs).encode, x.2.1 ≤ 57) :
    Inv (Huff.Container.merge srcs) :=
  Huff.Container.merge_inv srcs (merged_stats_valid srcs fun s hs => (hr s hs).stats_valid) hdepth

/-- the containers built from `default` by `push`, `clear` and those `merge_regions` that produce a code within the
encoder's width (≤ 57 bits: fewer than ~10^12 recorded symbols suffice); each satisfies the region invariant (`BuiltOK.inv`) -/
inductive Huff.BuiltOK : Huff.Container → Prop
  | default : BuiltOK Huff.Container.default
  | push {h h' : Huff.Container} {item : List Nat} {i : Nat × Nat} :
      BuiltOK h → Huff.Container.push h item = some (h', i) → BuiltOK h'
  | clear {h : Huff.Container} : BuiltOK h → BuiltOK (Huff.Container.clear h)
  | merge {srcs : List Huff.Container} : (∀ s ∈ srcs, BuiltOK s) →
      (∀ x ∈ (C06.mergedCode srcs).encode, 1 ≤ x.2.1 ∧ x.2.1 ≤ 57) → BuiltOK (Huff.Container.merge srcs)

theorem Huff.BuiltOK.built {h : Huff.Container} (hr : Huff.BuiltOK h) : Huff.Built h := by
  induction hr with
  | default => exact .default
  | push _ hp ih => exact .push ih hp
  | clear _ ih => exact .clear ih
  | merge _ _ ih => exact .merge ih

theorem Huff.BuiltOK.inv {h : Huff.Container} (hr : Huff.BuiltOK h) : Inv h := by
  induction hr with
  | default => exact Container.inv_raw rfl
  | push _ hp ih => exact (Container.push_post hp ih).inv
  | clear _ _ => exact Container.inv_raw rfl
  | merge hs hd _ =>
    exact Huff.Container.merge_inv_reachable _ (fun s h => (hs s h).built) fun x hx => (hd x hx).2

theorem HuffU8.merge_inv (rs : List HuffU8)
    (hv : Huff.Valid ((rs.map (·.c)).foldl (fun acc h => mergeStats acc h.stats) []))
    (hdepth : ∀ x ∈ (C06.mergedCode (rs.map (·.c))).encode, x.2.1 ≤ 57) :
    Inv (RegionAux.mergeRegions rs : HuffU8) :=
  Huff.Container.merge_inv (rs.map (·.c)) hv hdepth

end FC
