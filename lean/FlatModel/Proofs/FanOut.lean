import FlatModel.Proofs.Region
/-! Laws of the fan-out regions: option, result, tuples, string wrapper. -/
namespace FC
open Region LawfulRegion

/-! ### what a push does, constructor by constructor (no laws needed)

For the `Option.map`-shaped pushes (string, `some`, `ok`, `error`) a successful push is taken apart by
`Option.map_eq_some_iff.mp hp`, which unifies through the instance. -/

theorem StringRegion.push_eq {R I : Type} [Region R (List UInt8) I] (r : StringRegion R) (v : List UInt8) :
    push r v = (push r.inner v).map fun p => (⟨p.1⟩, p.2) := rfl

theorem string_pushes {R I : Type} [Region R (List UInt8) I] {r r' : StringRegion R} {v : List UInt8} {i : I}
    (hp : push r v = some (r', i)) : Pushes r.inner r'.inner := by
  obtain ⟨⟨r0, j⟩, hp0, ⟨⟩⟩ := Option.map_eq_some_iff.mp hp
  exact .single hp0

namespace OptionRegion
variable {R V I : Type} [Region R V I] (r : OptionRegion R)
theorem push_some (x : V) : push r (some x) = (push r.inner x).map fun p => (⟨p.1⟩, some p.2) := rfl
@[simp] theorem index_some (j : I) : index r (some j) = (index r.inner j).map some := rfl
end OptionRegion

theorem option_pushes {R V I : Type} [Region R V I] {r r' : OptionRegion R} {v : Option V} {i : Option I}
    (hp : push r v = some (r', i)) : Pushes r.inner r'.inner := by
  cases v with
  | none =>
    cases hp
    exact .refl _
  | some x =>
    obtain ⟨⟨r0, j⟩, hp0, ⟨⟩⟩ := Option.map_eq_some_iff.mp hp
    exact .single hp0

namespace ResultRegion
variable {T VT IT E VE IE : Type} [Region T VT IT] [Region E VE IE] (r : ResultRegion T E)
theorem push_ok_eq (x : VT) : push r (.ok x) = (push r.oks x).map fun p => (⟨p.1, r.errs⟩, .ok p.2) := rfl
theorem push_error_eq (x : VE) : push r (.error x) = (push r.errs x).map fun p => (⟨r.oks, p.1⟩, .error p.2) := rfl
@[simp] theorem index_ok (j : IT) : index r (.ok j : Except IE IT) = (index r.oks j).map .ok := rfl
@[simp] theorem index_error (j : IE) : index r (.error j : Except IE IT) = (index r.errs j).map .error := rfl
end ResultRegion

theorem result_pushes {T VT IT E VE IE : Type} [Region T VT IT] [Region E VE IE] {r r' : ResultRegion T E}
    {v : Except VE VT} {i : Except IE IT} (hp : push r v = some (r', i)) :
    Pushes r.oks r'.oks ∧ Pushes r.errs r'.errs := by
  cases v with
  | error x =>
    obtain ⟨⟨e', j⟩, hp0, ⟨⟩⟩ := Option.map_eq_some_iff.mp hp
    exact ⟨.refl _, .single hp0⟩
  | ok x =>
    obtain ⟨⟨t', j⟩, hp0, ⟨⟩⟩ := Option.map_eq_some_iff.mp hp
    exact ⟨.single hp0, .refl _⟩

namespace TupleCons
variable {A VA IA B VB IB : Type} [Region A VA IA] [Region B VB IB] {r r' : TupleCons A B}
  {v : VA × VB} {i : IA × IB}

theorem push_eq (r : TupleCons A B) (v : VA × VB) :
    push r v = (push r.head v.1).bind fun p => (push r.tail v.2).map fun q => (⟨p.1, q.1⟩, (p.2, q.2)) := by
  simp only [Region.push]
  cases push r.head v.1 with
  | none => rfl
  | some p => cases push r.tail v.2 <;> rfl

theorem push_eq_some :
    push r v = some (r', i) ↔ push r.head v.1 = some (r'.head, i.1) ∧ push r.tail v.2 = some (r'.tail, i.2) := by
  cases r'
  cases i
  simp only [push_eq, Option.bind_eq_some_iff, Option.map_eq_some_iff, Prod.exists, Prod.mk.injEq, TupleCons.mk.injEq]
  constructor
  · rintro ⟨a, j, h1, b, k, h2, ⟨rfl, rfl⟩, rfl, rfl⟩
    exact ⟨h1, h2⟩
  · rintro ⟨h1, h2⟩
    exact ⟨_, _, h1, _, _, h2, ⟨rfl, rfl⟩, rfl, rfl⟩

theorem index_eq (r : TupleCons A B) (j : IA × IB) :
    index r j = (index r.head j.1).bind fun x => (index r.tail j.2).map fun y => (x, y) := by
  simp only [Region.index]
  cases index r.head j.1 <;> cases index r.tail j.2 <;> rfl
end TupleCons

theorem tuple_pushes {A VA IA B VB IB : Type} [Region A VA IA] [Region B VB IB] {r r' : TupleCons A B}
    {v : VA × VB} {i : IA × IB} (hp : push r v = some (r', i)) : Pushes r.head r'.head ∧ Pushes r.tail r'.tail :=
  ⟨.single (TupleCons.push_eq_some.mp hp).1, .single (TupleCons.push_eq_some.mp hp).2⟩

section Option
variable {R V I : Type} [Region R V I] [LawfulRegion R]

instance : LawfulRegion (OptionRegion R) := .ofPost
  (inv_default := inv_default (R := R))
  (isSome_push := by
    rintro r (_ | x) hi
    · exact ⟨fun _ => trivial, fun _ => rfl⟩
    · rw [OptionRegion.push_some, Option.isSome_map]
      exact isSome_push (r := r.inner) hi)
  (push_post := by
    rintro r r' (_ | x) i hi hp
    · cases hp
      exact ⟨hi, trivial, ⟨none, rfl, trivial⟩, Extends.refl r⟩
    · obtain ⟨⟨r0, j⟩, hp0, ⟨⟩⟩ := Option.map_eq_some_iff.mp hp
      obtain ⟨h1, h2, ⟨u, hu, hs⟩, h4⟩ := push_post hp0 hi
      refine ⟨h1, h2, ⟨some u, by simp [hu], hs⟩, ?_⟩
      rintro (_ | k) hk
      · exact ⟨trivial, rfl⟩
      · exact ⟨(h4 k hk).1, by simp [(h4 k hk).2]⟩)
  (valid_reads := by
    rintro r (_ | j) hi hv
    · exact ⟨none, rfl⟩
    · obtain ⟨u, hu⟩ := valid_reads r.inner j hi hv
      exact ⟨some u, by simp [hu]⟩)
  (clear_inv := fun r hi => clear_inv r.inner hi)
  (clear_sim := fun r hi => clear_sim r.inner hi)
  (sim_refl := fun r hi => sim_refl r.inner hi)
  (sim_push := by
    rintro a b (_ | x) hs ha hb
    · exact Or.inr ⟨a, b, none, rfl, rfl, hs⟩
    · exact sim_push_map (a := a.inner) (b := b.inner) x hs ha hb fun _ _ _ h => ⟨h, rfl⟩)
  (sim_index := by
    rintro a b (_ | j) hs ha hb
    · exact ⟨Iff.rfl, fun _ => rfl⟩
    · obtain ⟨h1, h2⟩ := sim_index a.inner b.inner j hs ha hb
      exact ⟨h1, fun hv => by simp [h2 hv]⟩)
end Option

section Result
variable {T VT IT E VE IE : Type} [Region T VT IT] [Region E VE IE] [LawfulRegion T] [LawfulRegion E]

instance : LawfulRegion (ResultRegion T E) := .ofPost
  (inv_default := ⟨inv_default (R := T), inv_default (R := E)⟩)
  (isSome_push := by
    rintro r (x | x) hi
    · rw [ResultRegion.push_error_eq, Option.isSome_map]
      exact isSome_push (r := r.errs) hi.2
    · rw [ResultRegion.push_ok_eq, Option.isSome_map]
      exact isSome_push (r := r.oks) hi.1)
  (push_post := by
    rintro r r' (x | x) i hi hp
    · obtain ⟨⟨e', j⟩, hp0, ⟨⟩⟩ := Option.map_eq_some_iff.mp hp
      obtain ⟨h1, h2, ⟨u, hu, hs⟩, h4⟩ := push_post hp0 hi.2
      refine ⟨⟨hi.1, h1⟩, h2, ⟨.error u, by simp [hu], hs⟩, ?_⟩
      rintro (k | k) hk
      · exact ⟨(h4 k hk).1, by simp [(h4 k hk).2]⟩
      · exact ⟨hk, rfl⟩
    · obtain ⟨⟨t', j⟩, hp0, ⟨⟩⟩ := Option.map_eq_some_iff.mp hp
      obtain ⟨h1, h2, ⟨u, hu, hs⟩, h4⟩ := push_post hp0 hi.1
      refine ⟨⟨h1, hi.2⟩, h2, ⟨.ok u, by simp [hu], hs⟩, ?_⟩
      rintro (k | k) hk
      · exact ⟨hk, rfl⟩
      · exact ⟨(h4 k hk).1, by simp [(h4 k hk).2]⟩)
  (valid_reads := by
    rintro r (j | j) hi hv
    · obtain ⟨u, hu⟩ := valid_reads r.errs j hi.2 hv
      exact ⟨.error u, by simp [hu]⟩
    · obtain ⟨u, hu⟩ := valid_reads r.oks j hi.1 hv
      exact ⟨.ok u, by simp [hu]⟩)
  (clear_inv := fun r hi => ⟨clear_inv r.oks hi.1, clear_inv r.errs hi.2⟩)
  (clear_sim := fun r hi => ⟨clear_sim r.oks hi.1, clear_sim r.errs hi.2⟩)
  (sim_refl := fun r hi => ⟨sim_refl r.oks hi.1, sim_refl r.errs hi.2⟩)
  (sim_push := by
    rintro a b (x | x) hs ha hb
    · exact sim_push_map (a := a.errs) (b := b.errs) x hs.2 ha.2 hb.2 fun _ _ _ h => ⟨⟨hs.1, h⟩, rfl⟩
    · exact sim_push_map (a := a.oks) (b := b.oks) x hs.1 ha.1 hb.1 fun _ _ _ h => ⟨⟨h, hs.2⟩, rfl⟩)
  (sim_index := by
    rintro a b (j | j) hs ha hb
    · obtain ⟨h1, h2⟩ := sim_index a.errs b.errs j hs.2 ha.2 hb.2
      exact ⟨h1, fun hv => by simp [h2 hv]⟩
    · obtain ⟨h1, h2⟩ := sim_index a.oks b.oks j hs.1 ha.1 hb.1
      exact ⟨h1, fun hv => by simp [h2 hv]⟩)
end Result

instance : LawfulRegion TupleNil := .ofPost
  (inv_default := trivial)
  (isSome_push := fun _ _ _ => ⟨fun _ => trivial, fun _ => rfl⟩)
  (push_post := by
    rintro r _ _ _ _ ⟨⟩
    exact ⟨trivial, trivial, ⟨(), rfl, trivial⟩, Extends.refl r⟩)
  (valid_reads := fun _ _ _ _ => ⟨(), rfl⟩)
  (clear_inv := fun _ _ => trivial)
  (clear_sim := fun _ _ => trivial)
  (sim_refl := fun _ _ => trivial)
  (sim_push := fun a b _ _ _ _ => Or.inr ⟨a, b, (), rfl, rfl, trivial⟩)
  (sim_index := fun _ _ _ _ _ _ => ⟨Iff.rfl, fun _ => rfl⟩)

section Tuple
variable {A VA IA B VB IB : Type} [Region A VA IA] [Region B VB IB] [LawfulRegion A] [LawfulRegion B]

instance : LawfulRegion (TupleCons A B) := .ofPost
  (inv_default := ⟨inv_default (R := A), inv_default (R := B)⟩)
  (isSome_push := by
    intro r v hi
    show _ ↔ Accepts r.head v.1 ∧ Accepts r.tail v.2
    rw [← isSome_push hi.1, ← isSome_push hi.2, TupleCons.push_eq]
    cases push r.head v.1 <;> cases push r.tail v.2 <;> simp)
  (push_post := by
    intro r r' v i hi hp
    obtain ⟨hp1, hp2⟩ := TupleCons.push_eq_some.mp hp
    obtain ⟨a1, a2, ⟨u1, hu1, hs1⟩, a4⟩ := push_post hp1 hi.1
    obtain ⟨b1, b2, ⟨u2, hu2, hs2⟩, b4⟩ := push_post hp2 hi.2
    refine ⟨⟨a1, b1⟩, ⟨a2, b2⟩, ⟨(u1, u2), by simp [TupleCons.index_eq, hu1, hu2], hs1, hs2⟩, fun j hj => ?_⟩
    exact ⟨⟨(a4 _ hj.1).1, (b4 _ hj.2).1⟩, by simp only [TupleCons.index_eq, (a4 _ hj.1).2, (b4 _ hj.2).2]⟩)
  (valid_reads := by
    intro r j hi hv
    obtain ⟨u1, h1⟩ := valid_reads r.head j.1 hi.1 hv.1
    obtain ⟨u2, h2⟩ := valid_reads r.tail j.2 hi.2 hv.2
    exact ⟨(u1, u2), by simp [TupleCons.index_eq, h1, h2]⟩)
  (clear_inv := fun r hi => ⟨clear_inv r.head hi.1, clear_inv r.tail hi.2⟩)
  (clear_sim := fun r hi => ⟨clear_sim r.head hi.1, clear_sim r.tail hi.2⟩)
  (sim_refl := fun r hi => ⟨sim_refl r.head hi.1, sim_refl r.tail hi.2⟩)
  (sim_push := by
    intro a b v hs ha hb
    simp only [TupleCons.push_eq]
    rcases sim_push a.head b.head v.1 hs.1 ha.1 hb.1 with ⟨h1, h2⟩ | ⟨a', b', i, h1, h2, h3⟩
    · exact Or.inl ⟨by rw [h1]; rfl, by rw [h2]; rfl⟩
    · rcases sim_push a.tail b.tail v.2 hs.2 ha.2 hb.2 with ⟨g1, g2⟩ | ⟨a'', b'', j, g1, g2, g3⟩
      · exact Or.inl ⟨by rw [h1, g1]; rfl, by rw [h2, g2]; rfl⟩
      · exact Or.inr ⟨⟨a', a''⟩, ⟨b', b''⟩, (i, j), by rw [h1, g1]; rfl, by rw [h2, g2]; rfl, h3, g3⟩)
  (sim_index := by
    intro a b i hs ha hb
    obtain ⟨h1, h2⟩ := sim_index a.head b.head i.1 hs.1 ha.1 hb.1
    obtain ⟨g1, g2⟩ := sim_index a.tail b.tail i.2 hs.2 ha.2 hb.2
    exact ⟨and_congr h1 g1, fun hv => by simp only [TupleCons.index_eq, h2 hv.1, g2 hv.2]⟩)
end Tuple

section String
variable {R I : Type} [Region R (List UInt8) I] [LawfulRegion R]

instance : LawfulRegion (StringRegion R) := .ofPost
  (inv_default := inv_default (R := R))
  (isSome_push := fun r v hi => by
    rw [StringRegion.push_eq, Option.isSome_map]
    exact isSome_push (r := r.inner) hi)
  (push_post := fun r _ _ _ hi hp => by
    obtain ⟨⟨r0, j⟩, hp0, ⟨⟩⟩ := Option.map_eq_some_iff.mp hp
    exact push_post (r := r.inner) hp0 hi)
  (valid_reads := fun r j hi hv => valid_reads r.inner j hi hv)
  (clear_inv := fun r hi => clear_inv r.inner hi)
  (clear_sim := fun r hi => clear_sim r.inner hi)
  (sim_refl := fun r hi => sim_refl r.inner hi)
  (sim_push := fun a b v hs ha hb =>
    sim_push_map (a := a.inner) (b := b.inner) v hs ha hb fun _ _ _ h => ⟨h, rfl⟩)
  (sim_index := fun a b i hs ha hb => sim_index a.inner b.inner i hs ha hb)
end String

end FC
