import FlatModel.Proofs.MisraGries
/-! The tuning constant of the heavy-hitter summary, `MG.cap` (= `FC.Generated.mgCapacity`: the literal `N` of
`Vec::with_capacity(N)` in `impl<T> Default for MisraGries<T>`, re-extracted from the crate's source on every run).

`MG.two_le_cap` below is the only theorem that looks at the value of the constant (`by decide` on the regenerated value).
Every other theorem of Proofs/Codec.lean, Proofs/MisraGries.lean, Props/C07.lean and Props/C07MG.lean is stated in terms of
`MG.cap`, `MG.k = MG.cap / 2` and `MG.k + 1` and proved from the theorems for a generic capacity (`MG.tidyK k`,
`MG.updateK cap`; `MG.tidy_eq_tidyK`, `MG.update_eq_updateK` are `rfl`), so a retuning (1024 → 2048) rebuilds them
unchanged. The evaluated `example`s at the end of Props/C07.lean and Props/C07MG.lean do run the summary at the capacity
in force (`by decide`, three to six insertions); they hold for every capacity that is not tiny (DESIGN.md 0.1: from 7 up).
An absurd retuning (capacity 0 or 1, or a shape `tools/gen_facts.py` does not recognise, which
it reports as 0) breaks exactly `MG.two_le_cap` — rightly: with capacity 0 the crate's vector would grow on the first
`push` and `len() == capacity()` would fire at std's growth steps, which the model (a fixed `MG.cap`) does not describe;
with capacity 1 every insertion compacts down to `k = 0` entries and the summary is always empty.

What the side condition buys (`run_length_lt_cap`): after every `update` the raw list is strictly shorter than the
capacity, so the crate's `Vec` never reallocates and `self.inner.capacity()` stays the constant it was created with —
the reason why the model may use a fixed `MG.cap` (given `Vec::with_capacity(N).capacity() == N`, the std assumption
recorded in tools/props/c07.py). -/
namespace FC.Codec

theorem MG.two_le_cap : 2 ≤ MG.cap := by decide

theorem MG.cap_pos : 0 < MG.cap := Nat.lt_of_lt_of_le (by omega) MG.two_le_cap
theorem MG.k_pos : 0 < MG.k := Nat.div_pos MG.two_le_cap (by omega)
theorem MG.k_lt_cap : MG.k < MG.cap := Nat.div_lt_self MG.cap_pos (by omega)
theorem MG.two_k_le_cap : 2 * MG.k ≤ MG.cap := Nat.mul_div_le MG.cap 2

theorem MG.tidyK_length_le (k : Nat) (m : MG) : (m.tidyK k).inner.length ≤ k := by
  by_cases h : (ranked m.inner).length ≤ k
  · rw [(MG.tidyK_of_le h).1]; exact h
  · obtain ⟨l₁, e, l₂, hsplit, hlen⟩ := exists_split_of_lt (by omega : k < (ranked m.inner).length)
    rw [(MG.tidyK_of_ranked hsplit hlen).1]
    have := length_stripZ_le (subAll (e.2 - 1) l₁)
    rwa [List.length_map, hlen] at this

theorem MG.updateK_length_lt {cap : Nat} (hc : 0 < cap) (m : MG) (h : m.inner.length < cap) (b : Bytes) (c : Nat) :
    (m.updateK cap b c).inner.length < cap := by
  unfold MG.updateK
  dsimp only
  split
  · have := MG.tidyK_length_le (cap / 2) ⟨m.inner ++ [(b, c)]⟩
    have : cap / 2 < cap := Nat.div_lt_self hc (by omega)
    omega
  · rename_i hne
    simp only [List.length_append, List.length_singleton, beq_iff_eq] at hne ⊢
    omega

theorem MG.runK_length_lt {cap : Nat} (hc : 0 < cap) (ops : List (Bytes × Nat)) :
    (MG.runK cap ops).inner.length < cap :=
  List.foldlRecOn (motive := fun m : MG => m.inner.length < cap) ops _ hc
    fun m h bc _ => MG.updateK_length_lt hc m h bc.1 bc.2

theorem run_length_lt_cap (ops : List (Bytes × Nat)) : (run ops).inner.length < MG.cap :=
  MG.runK_length_lt MG.cap_pos ops

end FC.Codec
