import FlatModel.Proofs.HuffEnc
/-! `BitIterator` and `Decoder` refinement (C06). -/
namespace FC.Huff

/-- the bits carried by one `BitIterator` item `(byte, nbits)` -/
def chunkBits (x : Nat × Nat) : List Bool := bitsOfCode x.2 x.1

def TailOK : List (Nat × Nat) → Prop
  | [] => True
  | x :: cs => x.1 < 2 ^ x.2 ∧ 1 ≤ x.2 ∧ x.2 ≤ 8 ∧ (cs ≠ [] → x.2 = 8) ∧ TailOK cs

theorem bitChunks_nil_of_le (bytes : List Nat) (fuel lo hi : Nat) (h : hi ≤ lo) : bitChunks bytes fuel lo hi = [] := by
  cases fuel with
  | zero => rfl
  | succ f => simp [bitChunks]; omega

theorem allBits_slice (bytes : List Nat) (q r n : Nat) (hq : q < bytes.length) (hr : r + n ≤ 8) :
    ((allBits bytes).drop (8 * q + r)).take n = ((bitsOfCode 8 bytes[q]!).drop r).take n := by
  induction bytes generalizing q with
  | nil => simp at hq
  | cons b bs ih =>
    cases q with
    | zero =>
      simp only [allBits_cons, Nat.mul_zero, Nat.zero_add]
      rw [List.drop_append_of_le_length (by simp; omega), List.take_append_of_le_length (by simp; omega)]
      simp
    | succ q =>
      simp only [allBits_cons, List.length_cons] at hq ⊢
      rw [List.drop_append, List.drop_of_length_le (by simp; omega), List.nil_append, length_bitsOfCode,
        show 8 * (q + 1) + r - 8 = 8 * q + r by omega, ih q (by omega)]
      simp

theorem bitsOfCode_slice (byte r n : Nat) (hr : r + n ≤ 8) :
    ((bitsOfCode 8 byte).drop r).take n = bitsOfCode n (byte / 2 ^ (8 - r - n) % 2 ^ n) := by
  rw [bitsOfCode_drop (by omega), bitsOfCode_take (by omega), bitsOfCode_mod _ (Nat.le_refl _)]

theorem chunks_spec (bytes : List Nat) (fuel lo hi : Nat) (hhi : hi ≤ 8 * bytes.length) (hf : hi - lo ≤ fuel) :
    (bitChunks bytes fuel lo hi).flatMap chunkBits = ((allBits bytes).drop lo).take (hi - lo) := by
  induction fuel generalizing lo with
  | zero => simp [bitChunks, show hi - lo = 0 by omega]
  | succ fuel ih =>
    unfold bitChunks
    by_cases hlt : lo < hi
    · simp only [hlt, ↓reduceIte, List.flatMap_cons]
      have hn1 : 1 ≤ min (hi - lo) (8 - lo % 8) := by omega
      generalize hn : min (hi - lo) (8 - lo % 8) = n at hn1 ⊢
      rw [ih (lo + n) (by omega)]
      have hsl := allBits_slice bytes (lo / 8) (lo % 8) n (by omega) (by omega)
      rw [show 8 * (lo / 8) + lo % 8 = lo by omega, bitsOfCode_slice _ _ _ (by omega)] at hsl
      rw [chunkBits, ← hsl, show hi - lo = n + (hi - (lo + n)) by omega, List.take_add, List.drop_drop]
    · simp only [hlt, ↓reduceIte, List.flatMap_nil, show hi - lo = 0 by omega, List.take_zero]

theorem chunks_tail (bytes : List Nat) (fuel lo hi : Nat) (h8 : lo % 8 = 0) : TailOK (bitChunks bytes fuel lo hi) := by
  induction fuel generalizing lo with
  | zero => trivial
  | succ fuel ih =>
    unfold bitChunks
    by_cases hlt : lo < hi
    · simp only [hlt, ↓reduceIte, TailOK]
      by_cases h : hi - lo < 8
      · rw [bitChunks_nil_of_le _ _ _ _ (by omega)]
        exact ⟨Nat.mod_lt _ (Nat.two_pow_pos _), by omega, by omega, fun hne => absurd rfl hne, trivial⟩
      · exact ⟨Nat.mod_lt _ (Nat.two_pow_pos _), by omega, by omega, fun _ => by omega, ih _ (by omega)⟩
    · simp only [hlt, ↓reduceIte]; trivial

/-- shape: the first chunk ends at a byte boundary (or at the end of the range), so `chunks_tail` applies to the rest -/
theorem chunks_first (bytes : List Nat) (fuel lo hi : Nat) (hlt : lo < hi) :
    ∃ b n rest, bitChunks bytes (fuel + 1) lo hi = (b, n) :: rest ∧ b < 2 ^ n ∧ 1 ≤ n ∧ n ≤ 8 ∧ TailOK rest := by
  refine ⟨_, _, _, by rw [bitChunks, if_pos hlt], Nat.mod_lt _ (Nat.two_pow_pos _), by omega, by omega, ?_⟩
  by_cases h : hi - lo < 8 - lo % 8
  · rw [bitChunks_nil_of_le _ _ _ _ (by omega)]; trivial
  · apply chunks_tail; omega

example : bitChunks [0xA5, 0x3C, 0xFF] 20 3 21 = [(5, 5), (0x3C, 8), (0x1F, 5)] := by decide

/-- the first `let` of `decodeLoop`, under a name so that `decodeLoop_succ` can state one iteration: with fewer than 8
pending bits, shift in the next chunk if there is one -/
def restock (chunks : List (Nat × Nat)) (pending bits : Nat) : List (Nat × Nat) × Nat × Nat :=
  if bits < 8 then
    match chunks with
    | (nb, nbits) :: rest => (rest, pending * 2 ^ nbits + nb, bits + nbits)
    | [] => (chunks, pending, bits)
  else (chunks, pending, bits)

theorem decodeLoop_succ (root : Array Decode) (fuel : Nat) (map : Array Decode) (chunks : List (Nat × Nat))
    (pending bits : Nat) (acc : List Nat) :
    decodeLoop root (fuel + 1) map chunks pending bits acc =
      (let r := restock chunks pending bits
       if r.2.2 < 8 then
         if r.2.2 = 0 then some acc
         else
           match map[r.2.1 * 2 ^ (8 - r.2.2) % 256]! with
           | .void => none
           | .further _ => none
           | .symbol s l =>
             if l ≤ r.2.2 then decodeLoop root fuel root r.1 (r.2.1 % 2 ^ (r.2.2 - l)) (r.2.2 - l) (acc ++ [s])
             else none
       else
         match map[r.2.1 / 2 ^ (r.2.2 - 8) % 256]! with
         | .void => none
         | .symbol s l => decodeLoop root fuel root r.1 (r.2.1 % 2 ^ (r.2.2 - l)) (r.2.2 - l) (acc ++ [s])
         | .further t => decodeLoop root fuel t r.1 (r.2.1 % 2 ^ (r.2.2 - 8)) (r.2.2 - 8) acc) := by
  conv => lhs; unfold decodeLoop
  unfold restock
  by_cases hb : bits < 8
  · cases chunks with
    | nil => simp only [hb, ↓reduceIte]; rfl
    | cons x rest => obtain ⟨nb, nbits⟩ := x; simp only [hb, ↓reduceIte]; rfl
  · simp only [hb, ↓reduceIte]; rfl

def restBits (cs : List (Nat × Nat)) : List Bool := cs.flatMap chunkBits

theorem TailOK.eq_nil_of_restBits {cs : List (Nat × Nat)} (h : TailOK cs) (hf : restBits cs = []) : cs = [] := by
  cases cs with
  | nil => rfl
  | cons x cs =>
    obtain ⟨-, h1, -⟩ := h
    have := congrArg List.length hf
    simp [restBits, chunkBits] at this
    omega

theorem restock_spec (chunks : List (Nat × Nat)) (p b : Nat) (hp : p < 2 ^ b) (ht : TailOK chunks) :
    let r := restock chunks p b
    r.2.1 < 2 ^ r.2.2 ∧ TailOK r.1 ∧ bitsOfCode r.2.2 r.2.1 ++ restBits r.1 = bitsOfCode b p ++ restBits chunks ∧
      (r.2.2 < 8 → r.1 = []) := by
  unfold restock
  by_cases hb : b < 8
  · simp only [hb, ↓reduceIte]
    cases chunks with
    | nil => exact ⟨hp, trivial, rfl, fun _ => rfl⟩
    | cons x rest =>
      obtain ⟨nb, nbits⟩ := x
      obtain ⟨h1, h2, h3, h4, h5⟩ := ht
      simp only at h1 h2 h3 h4 ⊢
      refine ⟨?_, h5, ?_, ?_⟩
      · exact shl_add_lt hp h1
      · rw [bitsOfCode_mul_add _ _ _ _ h1]; simp [restBits, chunkBits]
      · intro hlt
        false_or_by_contra
        rename_i hne
        have := h4 hne; omega
  · simp [hb, hp, ht]

/-- the decoder's `u16` accumulator suffices: restocking happens only below 8 bits and adds at most 8 -/
theorem restock_u16 (chunks : List (Nat × Nat)) (p b : Nat) (hb : b < 16) (ht : TailOK chunks) :
    (restock chunks p b).2.2 < 16 := by
  unfold restock
  by_cases h8 : b < 8
  · simp only [h8, ↓reduceIte]
    cases chunks with
    | nil => exact hb
    | cons x rest =>
      obtain ⟨nb, nbits⟩ := x
      have := ht.2.2.1
      simp only at this ⊢
      omega
  · simp only [h8, ↓reduceIte]; exact hb

theorem drop_pending {b l : Nat} (p : Nat) (X : List Bool) (h : l ≤ b) :
    (bitsOfCode b p ++ X).drop l = bitsOfCode (b - l) (p % 2 ^ (b - l)) ++ X := by
  rw [List.drop_append_of_le_length (by simpa using h), bitsOfCode_drop h, bitsOfCode_mod _ (Nat.le_refl _)]

theorem idx8_pending {p b : Nat} {cs : List (Nat × Nat)} (hp : p < 2 ^ b) (hnil : b < 8 → cs = []) :
    idx8 (bitsOfCode b p ++ restBits cs) = if b < 8 then p * 2 ^ (8 - b) % 256 else p / 2 ^ (b - 8) % 256 := by
  split
  · rename_i h
    rw [hnil h, restBits, List.flatMap_nil, List.append_nil, idx8_short (by simp; omega), length_bitsOfCode,
      ofBits_bitsOfCode_of_lt hp, Nat.mod_eq_of_lt (shl_lt hp (by omega))]
  · rw [idx8_append _ (by simp; omega), idx8_eq, padTake_of_le (by simp; omega), bitsOfCode_take (by omega),
      ofBits_bitsOfCode]

theorem decode_one (root : Array Decode) (n : Nat) (map : Array Decode) (chunks : List (Nat × Nat)) (p b : Nat)
    (acc : List Nat) (s l : Nat) (hp : p < 2 ^ b) (ht : TailOK chunks)
    (hw : walk n map (bitsOfCode b p ++ restBits chunks) = some (s, l)) (hl : l ≤ b + (restBits chunks).length) :
    ∃ k chunks' p' b', k ≤ l ∧ p' < 2 ^ b' ∧ TailOK chunks' ∧
      bitsOfCode b' p' ++ restBits chunks' = (bitsOfCode b p ++ restBits chunks).drop l ∧
      ∀ fuel, decodeLoop root (fuel + k) map chunks p b acc = decodeLoop root fuel root chunks' p' b' (acc ++ [s]) := by
  induction n generalizing map chunks p b l with
  | zero => simp [walk] at hw
  | succ n ih =>
    obtain ⟨hp', ht', hR, hnil⟩ := restock_spec chunks p b hp ht
    have hstep : ∀ fuel k', decodeLoop root (fuel + (k' + 1)) map chunks p b acc = _ :=
      fun fuel k' => decodeLoop_succ root (fuel + k') map chunks p b acc
    have hlen := congrArg List.length hR
    simp only [List.length_append, length_bitsOfCode] at hlen
    rw [← hR] at hw ⊢
    generalize restock chunks p b = r at *
    obtain ⟨cs, p', b'⟩ := r
    simp only at hp' ht' hnil hw hlen hstep ⊢
    -- with fewer than 8 pending bits there are no more chunks, so everything left is pending
    have hnil' : b' < 8 → (restBits cs).length = 0 := fun h => by rw [hnil h]; rfl
    have hidx := idx8_pending hp' hnil
    rcases walk_succ_eq_some.1 hw with ⟨hm, h1, h8⟩ | ⟨t, l', hm, hw', rfl⟩
    · have hlb : l ≤ b' := by
        by_cases h : b' < 8
        · have := hnil' h; omega
        · omega
      refine ⟨1, cs, p' % 2 ^ (b' - l), b' - l, h1, Nat.mod_lt _ (Nat.two_pow_pos _), ht',
        (drop_pending _ _ hlb).symm, fun fuel => ?_⟩
      rw [hstep fuel 0, Nat.add_zero]
      rw [hidx] at hm
      by_cases h : b' < 8
      · rw [if_pos h] at hm
        simp only [h, ↓reduceIte, hm]
        rw [if_neg (by omega), if_pos hlb]
      · rw [if_neg h] at hm
        simp only [h, ↓reduceIte, hm]
    · have hb8 : ¬ b' < 8 := fun h => by have := hnil' h; omega
      rw [drop_pending _ _ (by omega)] at hw'
      obtain ⟨k, cs'', p'', b'', hk, hp'', ht'', hR'', hrun⟩ :=
        ih t cs (p' % 2 ^ (b' - 8)) (b' - 8) l' (Nat.mod_lt _ (Nat.two_pow_pos _)) ht' hw' (by omega)
      refine ⟨k + 1, cs'', p'', b'', by omega, hp'', ht'', ?_, fun fuel => ?_⟩
      · rw [hR'', ← drop_pending _ _ (by omega), List.drop_drop]; congr 1; omega
      · rw [hstep fuel k]
        rw [hidx, if_neg hb8] at hm
        simp only [hb8, ↓reduceIte, hm]
        exact hrun fuel

theorem decode_all (c : Code) (hc : TableOK c) (w : List Nat) (chunks : List (Nat × Nat)) (p b : Nat)
    (acc : List Nat) (R : List Bool) (hp : p < 2 ^ b) (ht : TailOK chunks)
    (hw : encodeBits c w = some R) (hR : bitsOfCode b p ++ restBits chunks = R) (fuel : Nat) (hf : R.length + 1 ≤ fuel) :
    decodeLoop c.decode fuel c.decode chunks p b acc = some (acc ++ w) := by
  induction w generalizing chunks p b acc R fuel with
  | nil =>
    cases hw
    have h0 : b = 0 := by have := congrArg List.length hR; simp at this; omega
    subst h0
    have hcs : chunks = [] := ht.eq_nil_of_restBits (by simpa using hR)
    subst hcs
    obtain ⟨f, rfl⟩ : ∃ f, fuel = f + 1 := ⟨fuel - 1, by omega⟩
    rw [decodeLoop_succ]
    simp [restock]
  | cons s w ih =>
    obtain ⟨l, code, R', hl, hr, rfl⟩ := encodeBits_cons_eq_some.1 hw
    have hwalk := hc s l code hl R'
    rw [← hR] at hwalk
    have hlen := congrArg List.length hR
    simp only [List.length_append, length_bitsOfCode] at hlen hf
    obtain ⟨k, cs', p', b', hk, hp', ht', hR', hrun⟩ :=
      decode_one c.decode 9 c.decode chunks p b acc s l hp ht hwalk (by omega)
    rw [hR, List.drop_left' (by simp)] at hR'
    obtain ⟨f, rfl⟩ : ∃ f, fuel = f + k := ⟨fuel - k, by omega⟩
    rw [hrun f, ih cs' p' b' (acc ++ [s]) R' hp' ht' hr hR' f (by omega)]
    simp

theorem decode_spec (c : Code) (hc : TableOK c) (bytes : List Nat) (lo hi : Nat) (w : List Nat)
    (hhi : hi ≤ 8 * bytes.length)
    (hw : encodeBits c w = some (((allBits bytes).drop lo).take (hi - lo))) :
    decodeRange c bytes lo hi = some w := by
  -- the fuels of `decodeRange` are ample: `chunks_spec` asks for `hi - lo`, `decode_all` for one more than the bits left
  have hspec := chunks_spec bytes (hi - lo + 2) lo hi hhi (by omega)
  have hRlen : (((allBits bytes).drop lo).take (hi - lo)).length = hi - lo := by
    simp only [List.length_take, List.length_drop, length_allBits]; omega
  unfold decodeRange
  rw [if_neg (by omega)]
  by_cases hlt : lo < hi
  · obtain ⟨b, n, rest, he, hb, hn1, hn8, ht⟩ := chunks_first bytes (hi - lo + 1) lo hi hlt
    rw [he] at hspec ⊢
    simpa using decode_all c hc w rest b n [] _ hb ht hw (by simpa [restBits, chunkBits] using hspec) _ (by omega)
  · rw [bitChunks_nil_of_le _ _ _ _ (by omega)] at hspec ⊢
    simpa using decode_all c hc w [] 0 0 [] _ (by simp) trivial hw (by simpa [restBits] using hspec) _ (by omega)

/-- a non-empty bit range reaching beyond the byte store is a panic (`self.bytes[..]` out of bounds) -/
theorem decodeRange_out_of_bounds (c : Code) (bytes : List Nat) (lo hi : Nat) (h : lo < hi) (ho : 8 * bytes.length < hi) :
    decodeRange c bytes lo hi = none := by
  unfold decodeRange; rw [if_pos ⟨h, ho⟩]

end FC.Huff
