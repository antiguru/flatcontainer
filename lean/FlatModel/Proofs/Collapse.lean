import FlatModel.Model.Wrappers
import FlatModel.Proofs.Region
/-! Laws of `CollapseSequence` (C01/C02/C08 core, C11). -/
namespace FC
open Region LawfulRegion

section
variable {R V I : Type} [Region R V I] [HasEqv V]

def CollapseSequence.pushMiss (r : CollapseSequence R I) (v : V) : Option (CollapseSequence R I × I) :=
  (push r.inner v).map fun p => (⟨p.1, some p.2⟩, p.2)

omit [HasEqv V] in
theorem CollapseSequence.pushMiss_eq_some {r r' : CollapseSequence R I} {v : V} {i : I} :
    r.pushMiss v = some (r', i) ↔ push r.inner v = some (r'.inner, i) ∧ r'.last = some i := by
  cases r'
  simp only [pushMiss, Option.map_eq_some_iff, Prod.exists, Prod.mk.injEq, CollapseSequence.mk.injEq]
  constructor
  · rintro ⟨a, j, h, ⟨rfl, rfl⟩, rfl⟩
    exact ⟨h, rfl⟩
  · rintro ⟨h, rfl⟩
    exact ⟨_, _, h, ⟨rfl, rfl⟩, rfl⟩

theorem CollapseSequence.push_eq (r : CollapseSequence R I) (v : V) :
    push r v = match r.last with
      | none => r.pushMiss v
      | some li => (index r.inner li).bind fun u => if HasEqv.eqv v u then some (r, li) else r.pushMiss v := by
  simp only [Region.push, pushMiss]
  rcases r.last with _ | li
  · cases push r.inner v <;> rfl
  · dsimp only
    rcases index r.inner li with _ | u
    · rfl
    · dsimp only [Option.bind_some]
      split
      · rfl
      · cases push r.inner v <;> rfl

theorem CollapseSequence.of_push_eq_some {r r' : CollapseSequence R I} {v : V} {i : I} (hp : push r v = some (r', i)) :
    (r' = r ∧ r.last = some i) ∨ (push r.inner v = some (r'.inner, i) ∧ r'.last = some i) := by
  rw [push_eq] at hp
  split at hp
  next => exact Or.inr (pushMiss_eq_some.mp hp)
  next li hl =>
    obtain ⟨u, -, hp⟩ := Option.bind_eq_some_iff.mp hp
    split at hp
    · cases hp
      exact Or.inl ⟨rfl, hl⟩
    · exact Or.inr (pushMiss_eq_some.mp hp)

theorem collapse_pushes {r r' : CollapseSequence R I} {v : V} {i : I} (hp : push r v = some (r', i)) :
    Pushes r.inner r'.inner := by
  rcases CollapseSequence.of_push_eq_some hp with ⟨rfl, _⟩ | ⟨hpi, _⟩
  · exact .refl _
  · exact .single hpi

end

section
variable {R V I : Type} [Region R V I] [HasEqv V] [LawfulRegion R]

/-- a push either *hits* (the item `==` the item at the remembered index: same index back, state
literally unchanged, nothing stored) or *misses* (no remembered item or it differs: the item is
pushed into the inner region and its index is remembered). Nothing else can happen. (C11) -/
theorem C11.hit_or_miss (r : CollapseSequence R I) (v : V) (hi : Inv r) :
    (∃ li u, r.last = some li ∧ index r.inner li = some u ∧ HasEqv.eqv v u = true ∧
        push r v = some (r, li)) ∨
    ((∀ li u, r.last = some li → index r.inner li = some u → HasEqv.eqv v u = false) ∧
        push r v = (push r.inner v).map fun p => (⟨p.1, some p.2⟩, p.2)) := by
  rw [CollapseSequence.push_eq]
  cases hlast : r.last with
  | none => exact Or.inr ⟨nofun, rfl⟩
  | some li =>
    obtain ⟨u, hu⟩ := valid_reads r.inner li hi.1 (hi.2 li hlast)
    by_cases he : HasEqv.eqv v u = true
    · exact Or.inl ⟨li, u, rfl, hu, he, by simp [hu, he]⟩
    · refine Or.inr ⟨fun li' u' h1 h2 => ?_, by simp [hu, he, CollapseSequence.pushMiss]⟩
      cases h1
      cases hu.symm.trans h2
      simpa using he

instance : LawfulRegion (CollapseSequence R I) := .ofPost
  (inv_default := ⟨inv_default (R := R), nofun⟩)
  (isSome_push := fun r v hi => by
    rcases C11.hit_or_miss r v hi with ⟨li, u, h1, hu, he, hp⟩ | ⟨hmiss, hp⟩
    · rw [hp]
      exact ⟨fun _ => Or.inl ⟨li, u, h1, hu, he⟩, fun _ => rfl⟩
    · rw [hp, Option.isSome_map, isSome_push hi.1]
      constructor
      · exact Or.inr
      · rintro (⟨li, u, h1, h2, h3⟩ | h)
        · exact absurd h3 (by simp [hmiss li u h1 h2])
        · exact h)
  (push_post := by
    intro r r' v i hi hp
    rcases C11.hit_or_miss r v hi with ⟨li, u, h1, hu, he, hp'⟩ | ⟨_, hp'⟩
    · cases hp'.symm.trans hp
      exact ⟨hi, hi.2 _ h1, ⟨u, hu, Or.inr he⟩, Extends.refl _⟩
    · obtain ⟨hpi, hl⟩ := CollapseSequence.pushMiss_eq_some.mp (hp'.symm.trans hp)
      obtain ⟨h1, h2, ⟨u, hu, hs⟩, hext⟩ := push_post hpi hi.1
      exact ⟨⟨h1, fun li h => Option.some.inj (hl.symm.trans h) ▸ h2⟩, h2, ⟨u, hu, Or.inl hs⟩, hext⟩)
  (valid_reads := fun r j hi hv => valid_reads r.inner j hi.1 hv)
  (clear_inv := fun r hi => ⟨clear_inv r.inner hi.1, nofun⟩)
  (clear_sim := fun r hi => ⟨clear_sim r.inner hi.1, rfl⟩)
  (sim_refl := fun r hi => ⟨sim_refl r.inner hi.1, rfl⟩)
  (sim_push := by
    intro a b v ⟨hsin, hsl⟩ ha hb
    have hread : ∀ li, a.last = some li → index a.inner li = index b.inner li :=
      fun li h => (sim_index a.inner b.inner li hsin ha.1 hb.1).2 (ha.2 li h)
    rcases C11.hit_or_miss a v ha with ⟨li, u, h1, hu, he, hpa⟩ | ⟨hmiss, hpa⟩
    · have hpb : push b v = some (b, li) := by
        simp [CollapseSequence.push_eq, ← hsl, h1, ← hread li h1, hu, he]
      exact Or.inr ⟨a, b, li, hpa, hpb, hsin, hsl⟩
    · have hpb : push b v = (push b.inner v).map fun p => (⟨p.1, some p.2⟩, p.2) := by
        rcases C11.hit_or_miss b v hb with ⟨li, u, h1, hu, he, _⟩ | ⟨_, h⟩
        · cases (hmiss li u (hsl ▸ h1) ((hread li (hsl ▸ h1)).trans hu)).symm.trans he
        · exact h
      rw [hpa, hpb]
      exact sim_push_map v hsin ha.1 hb.1 fun _ _ _ h => ⟨⟨h, rfl⟩, rfl⟩)
  (sim_index := fun a b i hs ha hb => sim_index a.inner b.inner i hs.1 ha.1 hb.1)

end
end FC
