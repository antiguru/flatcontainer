import FlatModel.Proofs.Caps
/-! Amortised growth (C17, second half): whenever a capacity changes it at least doubles, so it
changes at most `log2 (final capacity) + 1` times. Also: `clear` keeps every allocation, and
`lens ≤ caps` is an invariant. -/
namespace FC
open Region

theorem reserve_cap_step {α : Type} (v : MVec α) (k : Nat) : cstep v.cap (v.reserve k).cap :=
  reserve_cap v k ▸ room_step _ _ _

def changes : Nat → List Nat → Nat
  | _, [] => 0
  | c, d :: ds => (if d = c then 0 else 1) + changes d ds

def Chain : Nat → List Nat → Prop
  | _, [] => True
  | c, d :: ds => cstep c d ∧ Chain d ds

def bits (c : Nat) : Nat := if c = 0 then 0 else Nat.log2 c + 1

theorem bits_le (c : Nat) : bits c ≤ Nat.log2 c + 1 := by
  unfold bits
  split <;> omega

/-- doubling adds a binary digit; so does the first allocation: from capacity `0` doubling says nothing,
which is why `cstep` also asks for `1 ≤ b` -/
theorem bits_lt_of_double {a b : Nat} (h1 : 2 * a ≤ b) (h2 : 1 ≤ b) : bits a < bits b := by
  unfold bits
  rw [if_neg (by omega : b ≠ 0)]
  split
  · omega
  · next ha =>
    have := Nat.log2_self_le ha
    have h3 : 2 ^ (Nat.log2 a + 1) ≤ b := by
      rw [Nat.pow_succ]
      omega
    have := (Nat.le_log2 (by omega)).mpr h3
    omega

/-- **amortised doubling**: every change of capacity adds a binary digit -/
theorem changes_add_bits (c : Nat) (ds : List Nat) (h : Chain c ds) : changes c ds + bits c ≤ bits (ds.getLastD c) := by
  induction ds generalizing c with
  | nil => exact Nat.le_of_eq (Nat.zero_add _)
  | cons d ds ih =>
    have ih' := ih d h.2
    rw [List.getLastD_cons, changes]
    rcases h.1 with rfl | hd
    · rwa [if_pos rfl, Nat.zero_add]
    · have := bits_lt_of_double hd.1 hd.2
      split <;> omega

theorem changes_log (c : Nat) (ds : List Nat) (h : Chain c ds) :
    changes c ds ≤ Nat.log2 (ds.getLastD c) + 1 :=
  Nat.le_trans (Nat.le_of_add_right_le (changes_add_bits c ds h)) (bits_le _)

namespace MVec
variable {α : Type}
def capTrace (v : MVec α) : List (List α) → List Nat
  | [] => []
  | xs :: xss => (v.extend xs).cap :: capTrace (v.extend xs) xss

theorem push_eq_extend (v : MVec α) (x : α) : v.push x = v.extend [x] := rfl

theorem capTrace_chain (v : MVec α) (xss : List (List α)) : Chain v.cap (v.capTrace xss) := by
  induction xss generalizing v with
  | nil => trivial
  | cons xs xss ih => exact ⟨reserve_cap_step v xs.length, ih (v.extend xs)⟩

theorem capTrace_last (v : MVec α) (xss : List (List α)) :
    (v.capTrace xss).getLastD v.cap = (xss.foldl MVec.extend v).cap := by
  induction xss generalizing v with
  | nil => rfl
  | cons xs xss ih =>
    rw [capTrace, List.getLastD_cons, List.foldl_cons, ih]
end MVec

/-- `log_growth` for one vector: any sequence of `push`/`extend` operations reallocates (changes the
capacity) at most `log2 (final capacity) + 1` times, from any starting state -/
theorem log_growth_mvec {α : Type} (v : MVec α) (xss : List (List α)) :
    changes v.cap (v.capTrace xss) ≤ Nat.log2 (xss.foldl MVec.extend v).cap + 1 := by
  rw [← MVec.capTrace_last]
  exact changes_log _ _ (MVec.capTrace_chain v xss)

def vstep : List Nat → List Nat → Prop
  | [], [] => True
  | a :: as, b :: bs => cstep a b ∧ vstep as bs
  | _, _ => False

@[simp] theorem vstep_nil : vstep [] [] = True := rfl
@[simp] theorem vstep_cons (a b : Nat) (as bs : List Nat) : vstep (a :: as) (b :: bs) = (cstep a b ∧ vstep as bs) := rfl
@[simp] theorem vstep_nil_cons (b : Nat) (bs : List Nat) : vstep [] (b :: bs) = False := rfl
@[simp] theorem vstep_cons_nil (a : Nat) (as : List Nat) : vstep (a :: as) [] = False := rfl

theorem vstep_iff {a b : List Nat} : vstep a b ↔ List.Forall₂ cstep a b := by
  induction a generalizing b with
  | nil => cases b <;> simp
  | cons x a ih => cases b <;> simp [ih]

theorem vstep_refl (a : List Nat) : vstep a a := vstep_iff.mpr (List.forall₂_same.mpr fun _ _ => cstep_refl _)

theorem vstep_of_eq {a b : List Nat} (h : b = a) : vstep a b := h ▸ vstep_refl a

theorem vstep_trans {a b c : List Nat} (h1 : vstep a b) (h2 : vstep b c) : vstep a c :=
  vstep_iff.mpr ((vstep_iff.mp h1).trans' (vstep_iff.mp h2) fun _ _ _ => cstep_trans)

theorem vstep_append {a b c d : List Nat} (h1 : vstep a b) (h2 : vstep c d) : vstep (a ++ c) (b ++ d) :=
  vstep_iff.mpr (List.rel_append (vstep_iff.mp h1) (vstep_iff.mp h2))

theorem vstep_getD {a b : List Nat} (h : vstep a b) (j : Nat) : cstep (a.getD j 0) (b.getD j 0) :=
  (vstep_iff.mp h).getD' (cstep_refl 0) j

theorem vstep_length {a b : List Nat} (h : vstep a b) : a.length = b.length := (vstep_iff.mp h).length_eq

theorem vstep_mul {a b : List Nat} (h : vstep a b) (s : List Nat) :
    vstep (List.zipWith (· * ·) a s) (List.zipWith (· * ·) b s) :=
  vstep_iff.mpr ((vstep_iff.mp h).zipWith' (List.forall₂_same.mpr fun _ _ => rfl) fun _ _ _ _ hab hcd => hcd ▸ cstep_mul hab _)

theorem vstep_fit (caps lens : List Nat) (h : lens.length = caps.length) : vstep caps (Capd.fit caps lens) :=
  vstep_iff.mpr (Capd.fit_eq caps lens ▸ List.forall₂_zipWith_left (fun c l => room_step l 0 c) h.symm)

/-- the growth half of what an operation does to the bookkeeping: every capacity stays or at least
doubles, and `lens ≤ caps` is kept -/
structure Steps (l c l' c' : List Nat) : Prop where
  step : vstep c c'
  wf : vle l c → vle l' c'

namespace Steps
variable {l c l' c' l₁ c₁ l₂ c₂ m d m' d' : List Nat}

theorem refl (l c : List Nat) : Steps l c l c := ⟨vstep_refl c, id⟩

theorem one (l m k : Nat) : Steps [l] [k] [l + m] [room l m k] :=
  ⟨⟨room_step l m k, trivial⟩, fun _ => ⟨le_room l m k, trivial⟩⟩

theorem append (h1 : Steps l c l' c') (h2 : Steps m d m' d') (hl : l.length = c.length) :
    Steps (l ++ m) (c ++ d) (l' ++ m') (c' ++ d') :=
  ⟨vstep_append h1.step h2.step, fun h => by
    rw [vle_append_iff hl] at h
    exact vle_append (h1.wf h.1) (h2.wf h.2)⟩

theorem trans (h1 : Steps l c l₁ c₁) (h2 : Steps l₁ c₁ l₂ c₂) : Steps l c l₂ c₂ :=
  ⟨vstep_trans h1.step h2.step, fun h => h2.wf (h1.wf h)⟩
end Steps

open Sized in
class LawfulGrowth (R : Type) {V I : outParam Type} [Region R V I] [RegionAux R] [Sized R] : Prop where
  push_step : ∀ (r r' : R) (v : V) (i : I), CInv r → push r v = some (r', i) → vstep (caps r) (caps r')
  push_wf : ∀ (r r' : R) (v : V) (i : I), CInv r → vle (lens r) (caps r) → push r v = some (r', i) →
    vle (lens r') (caps r')
  clear_lens : ∀ r : R, lens (clear r) = zeros (n R)
  clear_caps : ∀ r : R, caps (clear r) = caps r
  clear_cinv : ∀ r : R, CInv r → CInv (clear r)

section Generic
variable {R V I : Type} [Region R V I] [RegionAux R] [Sized R] [L : LawfulSized R] [G : LawfulGrowth R]
open Sized C08

/-- `Steps` does not mention the values pushed, so it is a fact about `Pushes` (as `Pushes.heap` is) -/
theorem Pushes.steps {r r' : R} (hp : Pushes r r') (hc : CInv r) :
    CInv r' ∧ Steps (lens r) (caps r) (lens r') (caps r') :=
  hp.closed (S := fun x => CInv x ∧ Steps (lens r) (caps r) (lens x) (caps x)) (fun _ _ _ _ ha h1 =>
    ⟨L.push_cinv _ _ _ _ ha.1 h1, ha.2.trans ⟨G.push_step _ _ _ _ ha.1 h1, fun hw => G.push_wf _ _ _ _ ha.1 hw h1⟩⟩)
    ⟨hc, .refl _ _⟩

def capsTrace (r : R) : List V → List (List Nat)
  | [] => []
  | v :: vs => match push r v with | none => [] | some (r', _) => caps r' :: capsTrace r' vs

theorem capsTrace_chain (r r' : R) (vs : List V) (hc : CInv r) (h : runPushes r vs = some r') (j : Nat) :
    Chain ((caps r).getD j 0) ((capsTrace r vs).map (·.getD j 0)) ∧
      ((capsTrace r vs).map (·.getD j 0)).getLastD ((caps r).getD j 0) = (caps r').getD j 0 := by
  induction vs generalizing r with
  | nil =>
    cases h
    exact ⟨trivial, rfl⟩
  | cons v vs ih =>
    obtain ⟨r₁, i, hp, h⟩ := runPushes_cons_eq_some.mp h
    obtain ⟨h1, h2⟩ := ih r₁ (L.push_cinv r r₁ v i hc hp) h
    simp only [capsTrace, hp, List.map_cons]
    exact ⟨⟨vstep_getD (G.push_step r r₁ v i hc hp) j, h1⟩, List.getLastD_cons.trans h2⟩
end Generic

theorem IdxPushes.steps {I : Type} {sz : Nat} {c c' : Capd (VecIdx I sz)} (hp : IdxPushes c c') {k : Nat} (hk : c.caps = [k]) :
    ∃ k', c'.caps = [k'] ∧ Steps [c.a.v.length] [k] [c'.a.v.length] [k'] :=
  hp.closed (S := fun x => ∃ k', x.caps = [k'] ∧ Steps [c.a.v.length] [k] [x.a.v.length] [k'])
    (fun x y ⟨k', hk', hs⟩ => ⟨_, capd_push_caps x y hk', hs.trans (capd_push_len x y ▸ Steps.one _ 1 k')⟩) ⟨k, hk, .refl _ _⟩

instance (T : Type) : LawfulGrowth (MirrorRegion T) where
  push_step _ _ _ _ _ _ := trivial
  push_wf _ _ _ _ _ _ _ := trivial
  clear_lens _ := rfl
  clear_caps _ := rfl
  clear_cinv _ _ := trivial

theorem extend_steps {α : Type} (v : MVec α) (xs : List α) :
    Steps [v.data.length] [v.cap] [(v.extend xs).data.length] [(v.extend xs).cap] := by
  rw [MVec.extend_data, List.length_append, extend_cap, reserve_cap]
  exact .one _ _ _

instance (T : Type) [ElemSize T] : LawfulGrowth (OwnedRegion T) where
  push_step r r' v i _ hp := by
    cases hp
    exact (extend_steps _ _).step
  push_wf r r' v i _ hw hp := by
    cases hp
    exact (extend_steps _ _).wf hw
  clear_lens _ := rfl
  clear_caps _ := rfl
  clear_cinv _ _ := trivial

instance (T : Type) [ElemSize T] : LawfulGrowth (VecRegion T) where
  push_step r r' v i _ hp := by
    cases hp
    exact (extend_steps r.v [v]).step
  push_wf r r' v i _ hw hp := by
    cases hp
    exact (extend_steps r.v [v]).wf hw
  clear_lens _ := rfl
  clear_caps _ := rfl
  clear_cinv _ _ := trivial

instance instLawfulGrowthStringRegionListUInt8 {R I : Type} [Region R (List UInt8) I] [RegionAux R] [Sized R]
    [LawfulSized R] [G : LawfulGrowth R] : LawfulGrowth (StringRegion R) where
  push_step _ _ _ _ hc hp := ((string_pushes hp).steps hc).2.step
  push_wf _ _ _ _ hc hw hp := ((string_pushes hp).steps hc).2.wf hw
  clear_lens r := G.clear_lens r.inner
  clear_caps r := G.clear_caps r.inner
  clear_cinv r hc := G.clear_cinv r.inner hc

instance instLawfulGrowthOptionRegionOption {R V I : Type} [Region R V I] [RegionAux R] [Sized R]
    [LawfulSized R] [G : LawfulGrowth R] : LawfulGrowth (OptionRegion R) where
  push_step _ _ _ _ hc hp := ((option_pushes hp).steps hc).2.step
  push_wf _ _ _ _ hc hw hp := ((option_pushes hp).steps hc).2.wf hw
  clear_lens r := G.clear_lens r.inner
  clear_caps r := G.clear_caps r.inner
  clear_cinv r hc := G.clear_cinv r.inner hc

section Res
variable {T VT IT E VE IE : Type} [Region T VT IT] [Region E VE IE] [RegionAux T] [RegionAux E] [Sized T] [Sized E]
  [LT : LawfulSized T] [LawfulSized E] [GT : LawfulGrowth T] [GE : LawfulGrowth E]

theorem result_push_steps {r r' : ResultRegion T E} {v : Except VE VT} {i : Except IE IT} (hc : Sized.CInv r)
    (hp : push r v = some (r', i)) : Steps (Sized.lens r) (Sized.caps r) (Sized.lens r') (Sized.caps r') :=
  ((result_pushes hp).1.steps hc.1).2.append ((result_pushes hp).2.steps hc.2).2 (len_lens_caps _)

instance instLawfulGrowthResultRegionExceptOfLawfulSized : LawfulGrowth (ResultRegion T E) where
  push_step _ _ _ _ hc hp := (result_push_steps hc hp).step
  push_wf _ _ _ _ hc hw hp := (result_push_steps hc hp).wf hw
  clear_lens r := (congrArg₂ (· ++ ·) (GT.clear_lens r.oks) (GE.clear_lens r.errs)).trans (zeros_add _ _).symm
  clear_caps r := congrArg₂ (· ++ ·) (GT.clear_caps r.oks) (GE.clear_caps r.errs)
  clear_cinv r hc := ⟨GT.clear_cinv r.oks hc.1, GE.clear_cinv r.errs hc.2⟩
end Res

instance : LawfulGrowth TupleNil where
  push_step _ _ _ _ _ _ := trivial
  push_wf _ _ _ _ _ _ _ := trivial
  clear_lens _ := rfl
  clear_caps _ := rfl
  clear_cinv _ _ := trivial

section Tup
variable {A VA IA B VB IB : Type} [Region A VA IA] [Region B VB IB] [RegionAux A] [RegionAux B] [Sized A] [Sized B]
  [LA : LawfulSized A] [LawfulSized B] [GA : LawfulGrowth A] [GB : LawfulGrowth B]

theorem tuple_push_steps {r r' : TupleCons A B} {v : VA × VB} {i : IA × IB} (hc : Sized.CInv r)
    (hp : push r v = some (r', i)) : Steps (Sized.lens r) (Sized.caps r) (Sized.lens r') (Sized.caps r') :=
  ((tuple_pushes hp).1.steps hc.1).2.append ((tuple_pushes hp).2.steps hc.2).2 (len_lens_caps _)

instance instLawfulGrowthTupleConsProdOfLawfulSized : LawfulGrowth (TupleCons A B) where
  push_step _ _ _ _ hc hp := (tuple_push_steps hc hp).step
  push_wf _ _ _ _ hc hw hp := (tuple_push_steps hc hp).wf hw
  clear_lens r := (congrArg₂ (· ++ ·) (GA.clear_lens r.head) (GB.clear_lens r.tail)).trans (zeros_add _ _).symm
  clear_caps r := congrArg₂ (· ++ ·) (GA.clear_caps r.head) (GB.clear_caps r.tail)
  clear_cinv r hc := ⟨GA.clear_cinv r.head hc.1, GB.clear_cinv r.tail hc.2⟩
end Tup

section Slice
variable {R V I : Type} {sz : Nat} [Region R V I] [RegionAux R] [Sized R] [L : LawfulSized R] [G : LawfulGrowth R]

theorem slice_push_steps {r r' : SliceRegion R (Capd (VecIdx I sz))} {v : List V} {i : Nat × Nat} (hc : Sized.CInv r)
    (hp : push r v = some (r', i)) : Steps (Sized.lens r) (Sized.caps r) (Sized.lens r') (Sized.caps r') := by
  obtain ⟨⟨k, hk⟩, hci⟩ := hc
  obtain ⟨k', hk', hs⟩ := (slice_pushes hp).2.steps hk
  rw [sized_slice_caps r hk, sized_slice_caps r' hk']
  exact hs.append ((slice_pushes hp).1.steps hci).2 rfl

instance instLawfulGrowthSliceRegionCapdVecIdxListProdNatOfLawfulSized : LawfulGrowth (SliceRegion R (Capd (VecIdx I sz))) where
  push_step _ _ _ _ hc hp := (slice_push_steps hc hp).step
  push_wf _ _ _ _ hc hw hp := (slice_push_steps hc hp).wf hw
  clear_lens r := congrArg (0 :: ·) (G.clear_lens r.inner)
  clear_caps r := congrArg (_ :: ·) (G.clear_caps r.inner)
  clear_cinv r hc := ⟨hc.1, G.clear_cinv r.inner hc.2⟩
end Slice

section Stack
variable {R V I : Type} {sz : Nat} [Region R V I] [RegionAux R] [Sized R] [L : LawfulSized R] [G : LawfulGrowth R]

theorem stack_push_steps {fs fs' : FlatStack R (Capd (VecIdx I sz))} {v : V} {j : Nat} (hc : Sized.CInv fs)
    (hp : push fs v = some (fs', j)) : Steps (Sized.lens fs) (Sized.caps fs) (Sized.lens fs') (Sized.caps fs') := by
  obtain ⟨hcr, k, hk⟩ := hc
  obtain ⟨k', hk', hs⟩ := (stack_pushes hp).2.steps hk
  rw [sized_stack_caps fs hk, sized_stack_caps fs' hk']
  exact ((stack_pushes hp).1.steps hcr).2.append hs (len_lens_caps _)

instance instLawfulGrowthFlatStackCapdVecIdxNatOfLawfulSized : LawfulGrowth (FlatStack R (Capd (VecIdx I sz))) where
  push_step _ _ _ _ hc hp := (stack_push_steps hc hp).step
  push_wf _ _ _ _ hc hw hp := (stack_push_steps hc hp).wf hw
  clear_lens fs := (congrArg (· ++ [0]) (G.clear_lens fs.region)).trans (zeros_add _ 1).symm
  clear_caps fs := congrArg (· ++ _) (G.clear_caps fs.region)
  clear_cinv fs hc := ⟨G.clear_cinv fs.region hc.1, hc.2⟩
end Stack

end FC
