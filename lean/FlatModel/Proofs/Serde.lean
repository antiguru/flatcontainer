import FlatModel.Model.Serde

/-! C16: deserialising a serialised value yields the value again (`LawfulSer`); for vectors, index
containers with capacities and regions it yields exactly what `clone` yields in the model
(`mvec_de_ser`, `SerCloneIdx`, `SerClone`): every field, bookkeeping included, is identical and every
capacity is exact. -/
namespace FC
open Region

/-- element types and capacity-free structures: `de ∘ ser = some` -/
class LawfulSer (α : Type) [Ser α] : Prop where
  de_ser : ∀ a : α, Ser.de (Ser.ser a) = some a

theorem deList_map_gen {α : Type} [Ser α] (f : α → α) (h : ∀ a : α, Ser.de (Ser.ser a) = some (f a))
    (xs : List α) : deList Ser.de (xs.map Ser.ser) = some (xs.map f) := by
  induction xs with
  | nil => rfl
  | cons x xs ih => simp only [List.map_cons, deList, h, ih]

theorem deList_map {α : Type} [Ser α] (h : ∀ a : α, Ser.de (Ser.ser a) = some a) (xs : List α) :
    deList Ser.de (xs.map Ser.ser) = some xs := by
  simpa using deList_map_gen id h xs

instance : LawfulSer Nat where
  de_ser _ := rfl

instance : LawfulSer UInt8 where
  de_ser b := by
    show (if b.toNat < 256 then some (UInt8.ofNat b.toNat) else none) = some b
    rw [if_pos (UInt8.toNat_lt b)]
    simp

instance : LawfulSer Unit where
  de_ser _ := rfl

instance : LawfulSer F64 where
  de_ser _ := rfl

instance {α : Type} [Ser α] [LawfulSer α] : LawfulSer (List α) where
  de_ser xs := deList_map LawfulSer.de_ser xs

instance {α β : Type} [Ser α] [Ser β] [LawfulSer α] [LawfulSer β] : LawfulSer (α × β) where
  de_ser p := by simp [Ser.ser, Ser.de, LawfulSer.de_ser]

class LawfulSerTuple (τ : Type) [SerTuple τ] : Prop where
  of_elems : ∀ t : τ, SerTuple.ofElems (SerTuple.elems t) = some t

instance : LawfulSerTuple Unit where
  of_elems _ := rfl

instance {α τ : Type} [Ser α] [SerTuple τ] [LawfulSer α] [LawfulSerTuple τ] : LawfulSerTuple (α × τ) where
  of_elems p := by simp [SerTuple.elems, SerTuple.ofElems, LawfulSer.de_ser, LawfulSerTuple.of_elems]

instance (priority := high) {α τ : Type} [Ser α] [SerTuple τ] [LawfulSer α] [LawfulSerTuple τ] : LawfulSer (α × τ) where
  de_ser p := LawfulSerTuple.of_elems (τ := α × τ) p

/-! In the structural instances below `ser` and `de` unfold one level (the variant names compare
equal by evaluation) and every field round-trips by the law of its type. -/

instance {α : Type} [Ser α] [LawfulSer α] : LawfulSer (Option α) where
  de_ser o := by cases o <;> simp [Ser.ser, Ser.de, LawfulSer.de_ser]

instance {α β : Type} [Ser α] [Ser β] [LawfulSer α] [LawfulSer β] : LawfulSer (Except β α) where
  de_ser e := by cases e <;> simp [Ser.ser, Ser.de, LawfulSer.de_ser]

theorem mvec_de_ser {α : Type} [Ser α] [LawfulSer α] (v : MVec α) : Ser.de (Ser.ser v) = some v.clone := by
  show (deList Ser.de (v.data.map Ser.ser)).map (fun d => (⟨d, d.length⟩ : MVec α)) = some v.clone
  rw [deList_map LawfulSer.de_ser]
  rfl

instance (T : Type) (sz : Nat) [Ser T] [LawfulSer T] : LawfulSer (VecIdx T sz) where
  de_ser c := by
    show (deList Ser.de (c.v.map Ser.ser)).map (fun d => (⟨d⟩ : VecIdx T sz)) = some c
    rw [deList_map LawfulSer.de_ser]
    rfl

instance : LawfulSer Stride where
  de_ser s := by cases s <;> simp [Ser.ser, Ser.de]

instance : LawfulSer IndexList where
  de_ser l := by
    have h1 := LawfulSer.de_ser l.smol
    have h2 := LawfulSer.de_ser l.chonk
    simp only [Ser.ser, Ser.de] at h1 h2 ⊢
    simp only [h1, h2]

instance : LawfulSer IndexOptimized where
  de_ser o := by
    have h1 := LawfulSer.de_ser o.strided
    have h2 := LawfulSer.de_ser o.spilled
    simp only [Ser.ser, Ser.de] at h1 h2 ⊢
    simp only [h1, h2]

class SerCloneIdx (O : Type) {T : outParam Type} [IdxCont O T] [IdxAux O] [Ser O] : Prop where
  de_ser : ∀ c : O, Ser.de (Ser.ser c) = some (IdxAux.clone c)

instance {C T : Type} [IdxCont C T] [HasStores C] [Ser C] [LawfulSer C] : SerCloneIdx (Capd C) where
  de_ser c := by
    show (Ser.de (Ser.ser c.a)).map (fun a => (⟨a, HasStores.lens a⟩ : Capd C)) = some (Capd.clone c)
    rw [LawfulSer.de_ser c.a]
    rfl

class SerClone (R : Type) {V I : outParam Type} [Region R V I] [RegionAux R] [Ser R] : Prop where
  de_ser : ∀ r : R, Ser.de (Ser.ser r) = some (RegionAux.clone r)

instance (T : Type) : LawfulSer (MirrorRegion T) where
  de_ser _ := rfl
instance (T : Type) : SerClone (MirrorRegion T) where
  de_ser _ := rfl

instance (T : Type) [ElemSize T] [Ser T] [LawfulSer T] : SerClone (OwnedRegion T) where
  de_ser r := by
    show (Ser.de (Ser.ser r.slices)).map (fun s => (⟨s⟩ : OwnedRegion T)) = some ⟨r.slices.clone⟩
    rw [mvec_de_ser]
    rfl

instance (T : Type) [ElemSize T] [Ser T] [LawfulSer T] : SerClone (VecRegion T) where
  de_ser r := by
    show (Ser.de (Ser.ser r.v)).map (fun s => (⟨s⟩ : VecRegion T)) = some ⟨r.v.clone⟩
    rw [mvec_de_ser]
    rfl

instance {R I : Type} [Region R (List UInt8) I] [RegionAux R] [Ser R] [SerClone R] : SerClone (StringRegion R) where
  de_ser r := by simp [Ser.ser, Ser.de, RegionAux.clone, SerClone.de_ser]

instance {R V I : Type} [Region R V I] [RegionAux R] [Ser R] [SerClone R] : SerClone (OptionRegion R) where
  de_ser r := by simp [Ser.ser, Ser.de, RegionAux.clone, SerClone.de_ser]

instance {T VT IT E VE IE : Type} [Region T VT IT] [Region E VE IE] [RegionAux T] [RegionAux E] [Ser T] [Ser E]
    [SerClone T] [SerClone E] : SerClone (ResultRegion T E) where
  de_ser r := by simp [Ser.ser, Ser.de, RegionAux.clone, SerClone.de_ser]

class SerFieldsClone (B : Type) {V I : outParam Type} [Region B V I] [RegionAux B] [SerFields B] : Prop where
  of_fields : ∀ r : B, SerFields.ofFields (SerFields.fields r) = some (RegionAux.clone r)

instance : LawfulSer TupleNil where
  de_ser _ := rfl
instance : SerClone TupleNil where
  de_ser _ := rfl
instance : SerFieldsClone TupleNil where
  of_fields _ := rfl

section Tuple
variable {A VA IA B VB IB : Type} [Region A VA IA] [Region B VB IB] [RegionAux A] [RegionAux B]
  [Ser A] [SerFields B]

instance [SerClone A] [SerFieldsClone B] : SerFieldsClone (TupleCons A B) where
  of_fields r := by
    simp [SerFields.fields, SerFields.ofFields, RegionAux.clone, SerClone.de_ser, SerFieldsClone.of_fields]

instance [SerClone A] [SerFieldsClone B] : SerClone (TupleCons A B) where
  de_ser r := SerFieldsClone.of_fields r
end Tuple

instance {R V I : Type} [Region R V I] [HasEqv V] [RegionAux R] [IndexSize I] [Ser R] [Ser I]
    [SerClone R] [LawfulSer I] : SerClone (CollapseSequence R I) where
  de_ser r := by
    have h := LawfulSer.de_ser r.last
    simp only [Ser.ser, Ser.de] at h ⊢
    simp only [h, SerClone.de_ser, RegionAux.clone]

instance {R V I O : Type} [Region R V I] [IdxCont O I] [RegionAux R] [IdxAux O] [Ser R] [Ser O]
    [SerClone R] [SerCloneIdx O] : SerClone (SliceRegion R O) where
  de_ser r := by simp [Ser.ser, Ser.de, RegionAux.clone, SerClone.de_ser, SerCloneIdx.de_ser]

instance {R V O : Type} [Region R V (Nat × Nat)] [DenseRegion R] [IdxCont O Nat] [RegionAux R] [IdxAux O]
    [Ser R] [Ser O] [SerClone R] [SerCloneIdx O] : SerClone (ConsecPairs R O) where
  de_ser r := by simp [Ser.ser, Ser.de, RegionAux.clone, SerClone.de_ser, SerCloneIdx.de_ser]

instance {R V I O : Type} [Region R V I] [IdxCont O Nat] [RegionAux R] [IdxAux O] [ElemSize I]
    [Ser R] [Ser I] [Ser O] [SerClone R] [LawfulSer I] [SerCloneIdx O] : SerClone (ColumnsRegion R I O) where
  de_ser r := by
    have h1 := SerClone.de_ser r.indices
    have h2 := deList_map_gen RegionAux.clone SerClone.de_ser r.cols
    simp only [Ser.ser, Ser.de] at h1 h2 ⊢
    simp only [h1, h2, RegionAux.clone]

instance {R V I S : Type} [Region R V I] [IdxCont S I] [RegionAux R] [IdxAux S] [Ser R] [Ser S]
    [SerClone R] [SerCloneIdx S] : SerClone (FlatStack R S) where
  de_ser fs := by simp [Ser.ser, Ser.de, RegionAux.clone, SerClone.de_ser, SerCloneIdx.de_ser]

end FC
