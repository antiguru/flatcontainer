import FlatModel.Model.Columns
import FlatModel.Proofs.Consec
import FlatModel.Proofs.Slice
import Batteries.Data.List.Basic
/-! Laws of `ColumnsRegion` (C01/C02/C08 core, C12). `List.Forall₂` (Batteries) is used for relating
column lists of equal length (`pushRow_pushes`); the model's own `listRel` (Model/Wrappers.lean) is
the `same` relation of list values and has to live without imports. -/
namespace FC
open Region LawfulRegion

/-! ### what the operations do (no laws needed) -/
section
variable {R V I : Type} [Region R V I]

theorem pushRow_cons_eq_some {c : R} {cs : List R} {v : V} {vs : List V}
    {p : List R × List I} :
    pushRow (c :: cs) (v :: vs) = some p ↔ ∃ c' i cs' is, push c v = some (c', i) ∧
      pushRow cs vs = some (cs', is) ∧ p = (c' :: cs', i :: is) := by
  rw [pushRow]
  rcases push c v with _ | ⟨c', i⟩
  · simp
  · rcases pushRow cs vs with _ | ⟨cs', is⟩
    · simp
    · constructor
      · rintro ⟨⟩
        exact ⟨_, _, _, _, rfl, rfl, rfl⟩
      · rintro ⟨_, _, _, _, ⟨⟩, ⟨⟩, rfl⟩
        rfl

theorem pushRow_pushes {cs cs' : List R} {vs : List V} {is : List I}
    (hp : pushRow cs vs = some (cs', is)) : List.Forall₂ Pushes cs cs' := by
  induction vs generalizing cs cs' is with
  | nil =>
    simp only [pushRow_nil, Option.some.injEq, Prod.mk.injEq] at hp
    obtain ⟨rfl, -⟩ := hp
    induction cs with
    | nil => exact .nil
    | cons c cs ih => exact .cons (.refl c) ih
  | cons v vs ih =>
    cases cs with
    | nil => cases hp
    | cons c cs =>
      obtain ⟨c', i, cs1, is1, h1, h2, ⟨⟩⟩ := pushRow_cons_eq_some.mp hp
      exact .cons (.single h1) (ih h2)

theorem rowValid_append (cs extra : List R) (js : List I) (h : RowValid cs js) :
    RowValid (cs ++ extra) js ∧ readRow (cs ++ extra) js = readRow cs js := by
  induction js generalizing cs with
  | nil => exact ⟨by simp, by simp⟩
  | cons j js ih =>
    cases cs with
    | nil => exact h.elim
    | cons c cs => exact ⟨⟨h.1, (ih cs h.2).1⟩, by simp only [List.cons_append, readRow, (ih cs h.2).2]⟩

theorem padCols_getD (cs : List R) (n k : Nat) :
    (padCols cs n).getD k (Region.default : R) = cs.getD k (Region.default : R) := by
  simp only [padCols, List.getD_eq_getElem?_getD]
  rcases Nat.lt_or_ge k cs.length with h | h
  · rw [List.getElem?_append_left h]
  · rw [List.getElem?_append_right h, List.getElem?_eq_none (l := cs) h]
    simp only [List.getElem?_replicate]
    split <;> rfl

theorem padCols_zero (cs : List R) : padCols cs 0 = cs := by
  simp [padCols]

theorem padCols_nil_succ (n : Nat) : padCols ([] : List R) (n + 1) = (Region.default : R) :: padCols [] n := by
  simp [padCols, List.replicate_succ]

theorem padCols_cons_succ (c : R) (cs : List R) (n : Nat) : padCols (c :: cs) (n + 1) = c :: padCols cs n := by
  simp [padCols]

theorem mem_padCols {cs : List R} {n : Nat} {c : R} :
    c ∈ padCols cs n ↔ c ∈ cs ∨ (cs.length < n ∧ c = Region.default) := by
  simp only [padCols, List.mem_append, List.mem_replicate, ne_eq, Nat.sub_eq_zero_iff_le, Nat.not_le]

theorem length_padCols (cs : List R) (n : Nat) : (padCols cs n).length = max cs.length n := by
  simp only [padCols, List.length_append, List.length_replicate]
  omega

theorem length_le_padCols (cs : List R) (n : Nat) : cs.length ≤ (padCols cs n).length :=
  length_padCols cs n ▸ Nat.le_max_left ..

theorem le_length_padCols (cs : List R) (n : Nat) : n ≤ (padCols cs n).length :=
  length_padCols cs n ▸ Nat.le_max_right ..

theorem colsSim_pad (as bs : List R) (n m : Nat) (h : ColsSim as bs) : ColsSim (padCols as n) (padCols bs m) := by
  intro k
  rw [padCols_getD, padCols_getD]
  exact h k

variable {O : Type} [IdxCont O Nat]

/-- stated (by `rfl`) and rewritten with, because `simp only [Region.push]` on a columns region also
unfolds the push of `r.indices`, a `ConsecPairs` region -/
theorem ColumnsRegion.push_def (r : ColumnsRegion R I O) (row : List V) :
    push r row = match pushRow (padCols r.cols row.length) row with
      | none => none
      | some (cols', is) =>
        match push r.indices is with
        | none => none
        | some (ind', k) => some (⟨ind', cols'⟩, k) := rfl

theorem ColumnsRegion.index_eq (r : ColumnsRegion R I O) (k : Nat) :
    index r k = match index r.indices k with
      | none => none
      | some is => readRow r.cols is := rfl

theorem ColumnsRegion.push_eq (r : ColumnsRegion R I O) (row : List V) :
    push r row = (pushRow (padCols r.cols row.length) row).bind fun p =>
      (push r.indices p.2).map fun q => (⟨q.1, p.1⟩, q.2) := by
  rw [ColumnsRegion.push_def]
  rcases pushRow (padCols r.cols row.length) row with _ | ⟨cols', is⟩
  · rfl
  · simp only [Option.bind_some]
    cases push r.indices is <;> rfl

theorem ColumnsRegion.push_eq_some {r r' : ColumnsRegion R I O} {row : List V} {k : Nat} :
    push r row = some (r', k) ↔ ∃ is, pushRow (padCols r.cols row.length) row = some (r'.cols, is) ∧
      push r.indices is = some (r'.indices, k) := by
  cases r'
  simp only [ColumnsRegion.push_eq, Option.bind_eq_some_iff, Option.map_eq_some_iff, Prod.exists, Prod.mk.injEq,
    ColumnsRegion.mk.injEq]
  constructor
  · rintro ⟨cs, is, h1, ind, k', h2, ⟨rfl, rfl⟩, rfl⟩
    exact ⟨is, h1, h2⟩
  · rintro ⟨is, h1, h2⟩
    exact ⟨_, is, h1, _, _, h2, ⟨rfl, rfl⟩, rfl⟩

theorem columns_pushes {r r' : ColumnsRegion R I O} {row : List V} {k : Nat} (hp : push r row = some (r', k)) :
    List.Forall₂ Pushes (padCols r.cols row.length) r'.cols ∧ Pushes r.indices r'.indices := by
  obtain ⟨is, h1, h2⟩ := ColumnsRegion.push_eq_some.mp hp
  exact ⟨pushRow_pushes h1, .single h2⟩

end

section
variable {R V I : Type} [Region R V I] [LawfulRegion R]

theorem isSome_pushRow (cs : List R) (vs : List V) (hi : ∀ c ∈ cs, Inv c) :
    (pushRow (I := I) cs vs).isSome ↔ AcceptsRow cs vs := by
  induction vs generalizing cs with
  | nil => simp
  | cons v vs ih =>
    cases cs with
    | nil => exact ⟨nofun, nofun⟩
    | cons c cs =>
      rw [pushRow, AcceptsRow, ← isSome_push (hi c (by simp)), ← ih cs fun x hx => hi x (by simp [hx])]
      rcases push c v with _ | ⟨c', i⟩
      · simp
      · cases pushRow (I := I) cs vs <;> simp

/-- C01 and C02 for one row, column by column, in the columns `cs` the row was pushed into, which
for a columns region are the padded ones -/
theorem pushRow_spec (cs : List R) (vs : List V) (cs' : List R) (is : List I)
    (hi : ∀ c ∈ cs, Inv c) (hp : pushRow cs vs = some (cs', is)) :
    (∀ c ∈ cs', Inv c) ∧ RowValid cs' is ∧
    (∃ us, readRow cs' is = some us ∧ listRel (same (R := R)) us vs) ∧
    (∀ js, RowValid cs js → RowValid cs' js ∧ readRow cs' js = readRow cs js) := by
  induction vs generalizing cs cs' is with
  | nil =>
    simp only [pushRow_nil, Option.some.injEq, Prod.mk.injEq] at hp
    obtain ⟨rfl, rfl⟩ := hp
    exact ⟨hi, by simp, ⟨[], by simp, trivial⟩, fun js h => ⟨h, rfl⟩⟩
  | cons v vs ih =>
    cases cs with
    | nil => simp [pushRow] at hp
    | cons c cs =>
      obtain ⟨c', i, cs1, is1, hpc, hpr, ⟨⟩⟩ := pushRow_cons_eq_some.mp hp
      obtain ⟨hic', hvc', ⟨u, hru, hsu⟩, hext⟩ := push_post hpc (hi c (by simp))
      obtain ⟨h3, h4, ⟨us, h5, h6⟩, h7⟩ := ih cs cs1 is1 (fun x hx => hi x (by simp [hx])) hpr
      refine ⟨by simpa using ⟨hic', h3⟩, ⟨hvc', h4⟩,
        ⟨u :: us, by simp [readRow, hru, h5], hsu, h6⟩, ?_⟩
      rintro (_ | ⟨j, js⟩) hjs
      · exact ⟨by simp, by simp⟩
      · exact ⟨⟨(hext j hjs.1).1, (h7 js hjs.2).1⟩, by simp only [readRow, (hext j hjs.1).2, (h7 js hjs.2).2]⟩

theorem padCols_inv (cs : List R) (n : Nat) (hi : ∀ c ∈ cs, Inv c) : ∀ c ∈ padCols cs n, Inv c := by
  intro c hc
  rcases mem_padCols.mp hc with hc | ⟨_, rfl⟩
  · exact hi c hc
  · exact LawfulRegion.inv_default

theorem readRow_some_of_valid (cs : List R) (is : List I) (hi : ∀ c ∈ cs, Inv c) (h : RowValid cs is) :
    ∃ us, readRow cs is = some us := by
  induction is generalizing cs with
  | nil => exact ⟨[], by simp⟩
  | cons i is ih =>
    cases cs with
    | nil => exact absurd h (by simp [RowValid])
    | cons c cs =>
      obtain ⟨h1, h2⟩ := h
      obtain ⟨u, hu⟩ := LawfulRegion.valid_reads c i (hi c (by simp)) h1
      obtain ⟨us, hus⟩ := ih cs (fun x hx => hi x (by simp [hx])) h2
      exact ⟨u :: us, by simp [readRow, hu, hus]⟩

theorem colsSim_cons {a b : R} {as bs : List R} : ColsSim (a :: as) (b :: bs) ↔ Sim a b ∧ ColsSim as bs :=
  ⟨fun h => ⟨by simpa using h 0, fun n => by simpa using h (n + 1)⟩,
    fun h n => by
      cases n with
      | zero => simpa using h.1
      | succ n => simpa using h.2 n⟩

theorem pushRow_sim (as bs : List R) (vs : List V) (hla : vs.length ≤ as.length) (hlb : vs.length ≤ bs.length)
    (hs : ColsSim as bs) (hia : ∀ c ∈ as, Inv c) (hib : ∀ c ∈ bs, Inv c) :
    (pushRow as vs = none ∧ pushRow bs vs = none) ∨
    ∃ as' bs' is, pushRow as vs = some (as', is) ∧ pushRow bs vs = some (bs', is) ∧ ColsSim as' bs' := by
  induction vs generalizing as bs with
  | nil => exact Or.inr ⟨as, bs, [], by simp, by simp, hs⟩
  | cons v vs ih =>
    cases as with
    | nil => simp at hla
    | cons a as =>
      cases bs with
      | nil => simp at hlb
      | cons b bs =>
        obtain ⟨h0, hrest⟩ := colsSim_cons.mp hs
        rcases LawfulRegion.sim_push a b v h0 (hia a (by simp)) (hib b (by simp)) with ⟨h1, h2⟩ | ⟨a', b', i, h1, h2, h3⟩
        · exact Or.inl ⟨by simp [pushRow, h1], by simp [pushRow, h2]⟩
        · rcases ih as bs (by simpa using hla) (by simpa using hlb) hrest
              (fun x hx => hia x (by simp [hx])) (fun x hx => hib x (by simp [hx])) with
            ⟨g1, g2⟩ | ⟨as', bs', is, g1, g2, g3⟩
          · exact Or.inl ⟨by simp [pushRow, h1, g1], by simp [pushRow, h2, g2]⟩
          · exact Or.inr ⟨a' :: as', b' :: bs', i :: is, by simp [pushRow, h1, g1], by simp [pushRow, h2, g2],
              colsSim_cons.mpr ⟨h3, g3⟩⟩

theorem readRow_sim (as bs : List R) (is : List I) (hs : ColsSim as bs)
    (hia : ∀ c ∈ as, Inv c) (hib : ∀ c ∈ bs, Inv c) (hva : RowValid as is) (hvb : RowValid bs is) :
    readRow as is = readRow bs is := by
  induction is generalizing as bs with
  | nil => simp
  | cons i is ih =>
    cases as with
    | nil => exact absurd hva (by simp [RowValid])
    | cons a as =>
      cases bs with
      | nil => exact absurd hvb (by simp [RowValid])
      | cons b bs =>
        obtain ⟨h0, hrest⟩ := colsSim_cons.mp hs
        simp only [readRow]
        rw [(LawfulRegion.sim_index a b i h0 (hia a (by simp)) (hib b (by simp))).2 hva.1,
          ih as bs hrest (fun x hx => hia x (by simp [hx])) (fun x hx => hib x (by simp [hx])) hva.2 hvb.2]

theorem colsSim_refl (cs : List R) (hi : ∀ c ∈ cs, Inv c) : ColsSim cs cs := by
  intro n
  apply LawfulRegion.sim_refl
  rw [List.getD_eq_getElem?_getD]
  cases h : cs[n]? with
  | none => exact LawfulRegion.inv_default
  | some c => exact hi c (List.mem_of_getElem? h)

end

section
variable {R V I O : Type} [Region R V I] [LawfulRegion R] [IdxCont O Nat] [LawfulIdxCont O]

instance : LawfulRegion (ColumnsRegion R I O) := .ofPost
  (inv_default := ⟨inv_default, nofun, fun k _ hv => absurd hv (ConsecPairs.not_valid_of_iter consec_iter_default k)⟩)
  (isSome_push := fun r row hi => by
    show _ ↔ AcceptsRow (padCols r.cols row.length) row
    rw [← isSome_pushRow (I := I) _ row (padCols_inv r.cols row.length hi.2.1), ColumnsRegion.push_eq]
    rcases pushRow (padCols r.cols row.length) row with _ | ⟨cols', is⟩
    · rfl
    · simpa using (isSome_push (r := r.indices) (v := is) hi.1).mpr trivial)
  (push_post := by
    intro r r' row k ⟨hin, hcols, hrows⟩ hp
    obtain ⟨is, hpr, hpi⟩ := ColumnsRegion.push_eq_some.mp hp
    obtain ⟨hc', hrv, ⟨us, hus, hsame⟩, hframe⟩ :=
      pushRow_spec _ row r'.cols is (padCols_inv r.cols row.length hcols) hpr
    obtain ⟨hin', hvk, ⟨is', hri, hsi⟩, hext⟩ := push_post hpi hin
    -- `same` of the row-offset store (`OwnedRegion I` under `ConsecPairs`) is equality
    cases (hsi : is' = is)
    have hold : ∀ js, RowValid r.cols js → RowValid r'.cols js ∧ readRow r'.cols js = readRow r.cols js := by
      intro js hjs
      obtain ⟨p1, p2⟩ := rowValid_append r.cols (List.replicate (row.length - r.cols.length) default) js hjs
      exact ⟨(hframe js p1).1, (hframe js p1).2.trans p2⟩
    refine ⟨⟨hin', hc', fun k' js hv' hr' => ?_⟩, hvk, ⟨us, ?_, hsame⟩, fun j hj => ⟨(hext j hj).1, ?_⟩⟩
    · rcases ConsecPairs.valid_after_push r.indices r'.indices is k k' hin hpi hv' with hv | rfl
      · exact (hold js (hrows k' js hv ((hext k' hv).2.symm.trans hr'))).1
      · cases hri.symm.trans hr'
        exact hrv
    · rw [ColumnsRegion.index_eq, hri]
      exact hus
    · obtain ⟨isj, hisj⟩ := valid_reads r.indices j hin hj
      rw [ColumnsRegion.index_eq, ColumnsRegion.index_eq, (hext j hj).2, hisj]
      exact (hold isj (hrows j isj hj hisj)).2)
  (valid_reads := fun r j ⟨hin, hcols, hrows⟩ hv => by
    obtain ⟨isj, hisj⟩ := valid_reads r.indices j hin hv
    rw [ColumnsRegion.index_eq, hisj]
    exact readRow_some_of_valid r.cols isj hcols (hrows j isj hv hisj))
  (clear_inv := fun r hi => ⟨clear_inv r.indices hi.1,
    fun c hc => by
      obtain ⟨c0, hc0, rfl⟩ := List.mem_map.mp hc
      exact clear_inv c0 (hi.2.1 c0 hc0),
    fun k _ hv => absurd hv (ConsecPairs.not_valid_of_iter (consec_iter_clear r.indices) k)⟩)
  (clear_sim := fun r hi => ⟨clear_sim r.indices hi.1, fun n => by
    simp only [Region.clear, Region.default, List.getD_eq_getElem?_getD, List.getElem?_map, List.getElem?_nil,
      Option.getD_none]
    cases h : r.cols[n]? with
    | none => exact sim_refl _ inv_default
    | some c => exact clear_sim c (hi.2.1 c (List.mem_of_getElem? h))⟩)
  (sim_refl := fun r hi => ⟨sim_refl r.indices hi.1, colsSim_refl r.cols hi.2.1⟩)
  (sim_push := by
    intro a b row ⟨hsi, hsc⟩ ha hb
    rw [ColumnsRegion.push_eq, ColumnsRegion.push_eq]
    rcases pushRow_sim (padCols a.cols row.length) (padCols b.cols row.length) row
        (le_length_padCols _ _) (le_length_padCols _ _) (colsSim_pad _ _ _ _ hsc)
        (padCols_inv _ _ ha.2.1) (padCols_inv _ _ hb.2.1) with ⟨h1, h2⟩ | ⟨as', bs', is, h1, h2, h3⟩
    · exact Or.inl ⟨by rw [h1]; rfl, by rw [h2]; rfl⟩
    · rw [h1, h2]
      exact sim_push_map is hsi ha.1 hb.1 fun _ _ _ h => ⟨⟨h, h3⟩, rfl⟩)
  (sim_index := by
    intro a b k ⟨hsi, hsc⟩ ha hb
    obtain ⟨hv, hidx⟩ := sim_index a.indices b.indices k hsi ha.1 hb.1
    refine ⟨hv, fun hva => ?_⟩
    obtain ⟨is, his⟩ := valid_reads a.indices k ha.1 hva
    have hisb : index b.indices k = some is := (hidx hva).symm.trans his
    rw [ColumnsRegion.index_eq, ColumnsRegion.index_eq, his, hisb]
    exact readRow_sim a.cols b.cols is hsc ha.2.1 hb.2.1 (ha.2.2 k is hva his) (hb.2.2 k is (hv.mp hva) hisb))

end
end FC
