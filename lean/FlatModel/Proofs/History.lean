import FlatModel.Model.Wrappers
import FlatModel.Proofs.Region
/-! Histories of operations on one region: `run` (pushes and clears), `runPushes` / `trace` (pushes
only, the state reached and the indices returned), one step of each, and what the laws give along a
history of pushes: the invariant, every index handed out still valid and reading what was pushed
(C01 + C02), equal answers from `Sim`-equivalent starts (C08). `pushAll` (the loop of
`SliceRegion::push`) is such a history. `C08.runPushes`, `C08.trace` and `C02.noClear` are general
notions, the base vocabulary of every law file; the `C08.` / `C02.` in their names is a namespace, not a
restriction to those properties. -/
namespace FC
open Region LawfulRegion

section
variable {R V I : Type} [Region R V I]

inductive Op (V : Type) where
  | push (v : V)
  | clear

/-- run a history; `none` when a push is refused (the instance is poisoned) -/
def run (r : R) : List (Op V) → Option R
  | [] => some r
  | .push v :: ops => match push r v with | none => none | some (r', _) => run r' ops
  | .clear :: ops => run (clear r) ops

namespace C02
def noClear : List (Op V) → Prop
  | [] => True
  | .push _ :: ops => noClear ops
  | .clear :: _ => False
end C02

namespace C08
def trace (r : R) : List V → List I
  | [] => []
  | v :: vs => match push r v with | none => [] | some (r', i) => i :: trace r' vs

def runPushes (r : R) : List V → Option R
  | [] => some r
  | v :: vs => match push r v with | none => none | some (r', _) => runPushes r' vs
end C08
open C08

variable {r r' : R} {v : V} {vs : List V}

theorem run_push_eq_some {ops : List (Op V)} :
    run r (.push v :: ops) = some r' ↔ ∃ r1 i, push r v = some (r1, i) ∧ run r1 ops = some r' := by
  rw [run]
  rcases push r v with _ | ⟨r1, i⟩ <;> simp

theorem runPushes_cons_eq_some :
    runPushes r (v :: vs) = some r' ↔ ∃ r1 i, push r v = some (r1, i) ∧ runPushes r1 vs = some r' := by
  rw [runPushes]
  rcases push r v with _ | ⟨r1, i⟩ <;> simp

theorem trace_cons_of_push {r1 : R} {i : I} (hp : push r v = some (r1, i)) :
    trace r (v :: vs) = i :: trace r1 vs := by
  simp [trace, hp]

theorem pushes_of_runPushes (hp : runPushes r vs = some r') : Pushes r r' := by
  induction vs generalizing r with
  | nil =>
    cases hp
    exact .refl _
  | cons v vs ih =>
    obtain ⟨r1, i, h1, hp⟩ := runPushes_cons_eq_some.mp hp
    exact .step h1 (ih hp)

/-- `Pushes` forgets how many pushes there were; a measure that every push raises by a weight of the value is
followed along the batch itself -/
theorem runPushes_sum (m : R → Nat) (w : V → Nat) (hstep : ∀ (r r' : R) v i, push r v = some (r', i) → m r' = m r + w v)
    (hp : runPushes r vs = some r') : m r' = m r + (vs.map w).sum := by
  induction vs generalizing r with
  | nil =>
    cases hp
    rfl
  | cons v vs ih =>
    obtain ⟨r1, i, h1, hp⟩ := runPushes_cons_eq_some.mp hp
    rw [ih hp, hstep r r1 v i h1, List.map_cons, List.sum_cons, Nat.add_assoc]

theorem trace_length (h : runPushes r vs = some r') : (trace r vs).length = vs.length := by
  induction vs generalizing r with
  | nil => rfl
  | cons v vs ih =>
    obtain ⟨r1, i, hp, h⟩ := runPushes_cons_eq_some.mp h
    rw [trace_cons_of_push hp, List.length_cons, ih h, List.length_cons]

theorem pushAll_eq {O : Type} [IdxCont O I] (inner : R) (slices : O) (vs : List V) :
    pushAll inner slices vs =
      (runPushes inner vs).map fun inner' => (inner', (trace inner vs).foldl IdxCont.push slices) := by
  induction vs generalizing inner slices with
  | nil => rfl
  | cons v vs ih =>
    rw [pushAll, runPushes, trace]
    cases push inner v with
    | none => rfl
    | some p => exact ih p.1 _

theorem pushAll_eq_some {O : Type} [IdxCont O I] {inner inner' : R} {slices slices' : O} {vs : List V} :
    pushAll inner slices vs = some (inner', slices') ↔
      runPushes inner vs = some inner' ∧ slices' = (trace inner vs).foldl IdxCont.push slices := by
  rw [pushAll_eq, Option.map_eq_some_iff]
  constructor
  · rintro ⟨_, h, ⟨⟩⟩
    exact ⟨h, rfl⟩
  · rintro ⟨h, rfl⟩
    exact ⟨_, h, rfl⟩

/-- the same history written as a fold that collects the indices in an accumulator: the shape in which
the batch statements of the coded regions (`C06.roundtrip_coded_all`, `C07.generations_batch`) run
their pushes -/
theorem foldl_push_eq (r : R) (is : List I) (vs : List V) :
    vs.foldl (fun (acc : Option (R × List I)) v =>
        acc.bind fun (q, is) => (push q v).map fun (q', i) => (q', is ++ [i])) (some (r, is)) =
      (runPushes r vs).map fun r' => (r', is ++ trace r vs) := by
  induction vs generalizing r is with
  | nil => simp [runPushes, trace]
  | cons v vs ih =>
    simp only [List.foldl_cons, Option.bind_some, runPushes, trace]
    cases push r v with
    | none =>
      simp only [Option.map_none]
      clear ih
      -- once the accumulator is `none` it stays `none`
      induction vs with
      | nil => rfl
      | cons _ _ ih => simpa only [List.foldl_cons, Option.bind_none] using ih
    | some p => simp only [Option.map_some, ih, List.append_assoc, List.singleton_append]

variable [LawfulRegion R]

/-- **C01 + C02 along a history of pushes**: the end state satisfies the invariant and extends the
start, and the indices returned are valid and read back, in order, the values pushed -/
theorem runPushes_post (hi : Inv r) (h : runPushes r vs = some r') :
    Inv r' ∧ Extends r r' ∧ (∀ j ∈ trace r vs, Valid r' j) ∧
      ∃ us, readAll r' (trace r vs) = some us ∧ listRel (same (R := R)) us vs := by
  induction vs generalizing r with
  | nil =>
    cases h
    exact ⟨hi, Extends.refl _, nofun, [], rfl, trivial⟩
  | cons v vs ih =>
    obtain ⟨r1, i, hp, h⟩ := runPushes_cons_eq_some.mp h
    obtain ⟨hi1, hv1, ⟨u, hu, hs⟩, hext⟩ := push_post hp hi
    obtain ⟨h1, h2, h4, us, h5, h6⟩ := ih hi1 h
    rw [trace_cons_of_push hp]
    refine ⟨h1, hext.trans h2, ?_, u :: us, ?_, hs, h6⟩
    · simpa using ⟨(h2 i hv1).1, h4⟩
    · simp only [readAll, (h2 i hv1).2, hu, h5]

theorem runPushes_reads (hsame : ∀ a b : V, same (R := R) a b → a = b) (hi : Inv r) (h : runPushes r vs = some r') :
    (trace r vs).map (index r') = vs.map some := by
  induction vs generalizing r with
  | nil => rfl
  | cons v vs ih =>
    obtain ⟨r1, i, hp, h⟩ := runPushes_cons_eq_some.mp h
    obtain ⟨hi1, hv1, ⟨u, hu, hs⟩, -⟩ := push_post hp hi
    obtain ⟨-, hext, -⟩ := runPushes_post hi1 h
    rw [trace_cons_of_push hp, List.map_cons, List.map_cons, ih hi1 h, (hext i hv1).2, hu, hsame u v hs]

theorem isSome_runPushes (hi : Inv r) : (runPushes r vs).isSome ↔ AcceptsAll r vs := by
  induction vs generalizing r with
  | nil => exact ⟨fun _ => trivial, fun _ => rfl⟩
  | cons v vs ih =>
    rw [runPushes, AcceptsAll, ← isSome_push hi]
    rcases hp : push r v with _ | ⟨r1, i⟩
    · simp
    · simpa using ih (push_post hp hi).inv

namespace C08
/-- observationally equivalent states answer every sequence of pushes identically -/
theorem sim_pushes (a b : R) (vs : List V) (hs : Sim a b) (ha : Inv a) (hb : Inv b) :
    trace a vs = trace b vs ∧
    ((runPushes a vs = none ∧ runPushes b vs = none) ∨
      ∃ a' b', runPushes a vs = some a' ∧ runPushes b vs = some b' ∧ Sim a' b' ∧ Inv a' ∧ Inv b') := by
  induction vs generalizing a b with
  | nil => exact ⟨rfl, Or.inr ⟨a, b, rfl, rfl, hs, ha, hb⟩⟩
  | cons v vs ih =>
    rcases sim_push a b v hs ha hb with ⟨h1, h2⟩ | ⟨a1, b1, i, h1, h2, h3⟩
    · exact ⟨by simp [trace, h1, h2], Or.inl ⟨by simp [runPushes, h1], by simp [runPushes, h2]⟩⟩
    · simpa [trace, runPushes, h1, h2] using ih a1 b1 h3 (push_post h1 ha).inv (push_post h2 hb).inv
end C08

end
end FC
