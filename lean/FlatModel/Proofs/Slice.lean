import FlatModel.Model.Wrappers
import FlatModel.Proofs.Region
import FlatModel.Proofs.Index
import FlatModel.Proofs.History
/-! Laws of `SliceRegion` (C01/C02/C08 core). -/
namespace FC
open Region LawfulRegion C08

theorem mapM_eq_some_iff {α β : Type} (f : α → Option β) (l : List α) (vs : List β) :
    l.mapM f = some vs ↔ l.map f = vs.map some := by
  induction l generalizing vs with
  | nil => cases vs <;> simp
  | cons a l ih =>
    rw [List.mapM_cons, List.map_cons]
    cases f a with
    | none => cases vs <;> simp
    | some b =>
      cases vs with
      | nil => cases l.mapM f <;> simp
      | cons v vs => cases h : l.mapM f <;> simp [← ih, h]

section
variable {R V I O : Type} [Region R V I] [IdxCont O I]

theorem readAll_eq_mapM (inner : R) (is : List I) : readAll inner is = is.mapM (index inner) := by
  induction is with
  | nil => rfl
  | cons i is ih =>
    rw [readAll, ih, List.mapM_cons]
    cases index inner i <;> cases is.mapM (index inner) <;> rfl

theorem readAll_eq_some_iff {inner : R} {is : List I} {us : List V} :
    readAll inner is = some us ↔ is.map (index inner) = us.map some := by
  rw [readAll_eq_mapM, mapM_eq_some_iff]

theorem readAll_append (inner : R) (is js : List I) (us ws : List V)
    (h1 : readAll inner is = some us) (h2 : readAll inner js = some ws) :
    readAll inner (is ++ js) = some (us ++ ws) := by
  rw [readAll_eq_some_iff] at *
  rw [List.map_append, List.map_append, h1, h2]

theorem readAll_congr (a b : R) (is : List I) (h : ∀ j ∈ is, index a j = index b j) :
    readAll a is = readAll b is := by
  induction is with
  | nil => rfl
  | cons i is ih => rw [readAll, readAll, h i (by simp), ih fun j hj => h j (by simp [hj])]

theorem mem_take_drop {α} (l : List α) (a n : Nat) (x : α) (h : x ∈ (l.drop a).take n) : x ∈ l :=
  List.mem_of_mem_drop (List.mem_of_mem_take h)

theorem SliceRegion.push_eq (r : SliceRegion R O) (v : List V) :
    push r v = (pushAll r.inner r.slices v).map fun p =>
      (⟨p.2, p.1⟩, ((IdxCont.iter r.slices).length, (IdxCont.iter p.2).length)) := by
  simp only [Region.push]
  cases pushAll r.inner r.slices v <;> rfl

theorem SliceRegion.push_eq_some {r r' : SliceRegion R O} {v : List V} {i : Nat × Nat} :
    push r v = some (r', i) ↔ pushAll r.inner r.slices v = some (r'.inner, r'.slices) ∧
      i = ((IdxCont.iter r.slices).length, (IdxCont.iter r'.slices).length) := by
  cases r'
  simp only [SliceRegion.push_eq, Option.map_eq_some_iff, Prod.exists, Prod.mk.injEq, SliceRegion.mk.injEq]
  constructor
  · rintro ⟨in', sl', h, ⟨rfl, rfl⟩, rfl⟩
    exact ⟨h, rfl⟩
  · rintro ⟨h, rfl⟩
    exact ⟨_, _, h, ⟨rfl, rfl⟩, rfl⟩

/-- `push_eq_some.mp` with explicit arguments, as Props/Catalogue.lean calls it -/
theorem slice_push_some (r r' : SliceRegion R O) (v : List V) (i : Nat × Nat) (hp : push r v = some (r', i)) :
    pushAll r.inner r.slices v = some (r'.inner, r'.slices) ∧
      i = ((IdxCont.iter r.slices).length, (IdxCont.iter r'.slices).length) :=
  SliceRegion.push_eq_some.mp hp

theorem slice_pushes {r r' : SliceRegion R O} {v : List V} {i : Nat × Nat}
    (hp : push r v = some (r', i)) : Pushes r.inner r'.inner ∧ IdxPushes r.slices r'.slices :=
  have h := pushAll_eq_some.mp (SliceRegion.push_eq_some.mp hp).1
  ⟨pushes_of_runPushes h.1, h.2 ▸ IdxPushes.foldl _ _⟩

theorem slice_push_parts {r r' : SliceRegion R O} {v : List V} {i : Nat × Nat} (hp : push r v = some (r', i)) :
    runPushes r.inner v = some r'.inner ∧
      ∃ is : List I, is.length = v.length ∧ r'.slices = is.foldl IdxCont.push r.slices :=
  have h := pushAll_eq_some.mp (SliceRegion.push_eq_some.mp hp).1
  ⟨h.1, _, trace_length h.1, h.2⟩

theorem SliceRegion.valid_iff {r : SliceRegion R O} {i : Nat × Nat} :
    Valid r i ↔ i.1 ≤ i.2 ∧ i.2 ≤ (IdxCont.iter r.slices).length := Iff.rfl

theorem SliceRegion.index_eq_of_valid {r : SliceRegion R O} {i : Nat × Nat} (hv : Valid r i) :
    index r i = readAll r.inner (((IdxCont.iter r.slices).drop i.1).take (i.2 - i.1)) :=
  if_pos hv

variable [LawfulRegion R] [LawfulIdxCont O]

theorem readAll_some_of_valid (inner : R) (is : List I) (hi : Inv inner) (h : ∀ j ∈ is, Valid inner j) :
    ∃ us, readAll inner is = some us := by
  induction is with
  | nil => exact ⟨[], rfl⟩
  | cons i is ih =>
    obtain ⟨u, hu⟩ := valid_reads inner i hi (h i (by simp))
    obtain ⟨us, hus⟩ := ih fun j hj => h j (by simp [hj])
    exact ⟨u :: us, by simp [readAll, hu, hus]⟩

theorem readAll_sim (a b : R) (is : List I) (hs : Sim a b) (ha : Inv a) (hb : Inv b)
    (h : ∀ j ∈ is, Valid a j) : readAll a is = readAll b is :=
  readAll_congr a b is fun j hj => (sim_index a b j hs ha hb).2 (h j hj)

theorem pushAll_spec (inner : R) (slices : O) (vs : List V) (inner' : R) (slices' : O)
    (hi : Inv inner) (hc : IdxCont.Inv slices) (hs : ∀ j ∈ IdxCont.iter slices, Valid inner j)
    (hp : pushAll inner slices vs = some (inner', slices')) :
    ∃ is : List I,
      IdxCont.iter slices' = IdxCont.iter slices ++ is ∧ is.length = vs.length ∧
      Inv inner' ∧ IdxCont.Inv slices' ∧ (∀ j ∈ IdxCont.iter slices', Valid inner' j) ∧
      (∃ us, readAll inner' is = some us ∧ listRel (same (R := R)) us vs) ∧
      (∀ j, Valid inner j → Valid inner' j ∧ index inner' j = index inner j) := by
  obtain ⟨hr, rfl⟩ := pushAll_eq_some.mp hp
  obtain ⟨h1, h2, h4, hread⟩ := runPushes_post hi hr
  obtain ⟨hc', hit⟩ := LawfulIdxCont.foldl_push slices (trace inner vs) hc
  refine ⟨trace inner vs, hit, trace_length hr, h1, hc', fun j hj => ?_, hread, h2⟩
  rw [hit, List.mem_append] at hj
  exact hj.elim (fun h => (h2 j (hs j h)).1) (h4 j)

instance : LawfulRegion (SliceRegion R O) := .ofPost
  (inv_default := ⟨inv_default (R := R), LawfulIdxCont.inv_default (C := O),
    fun j hj => by
      simp only [Region.default, LawfulIdxCont.iter_default (C := O)] at hj
      cases hj⟩)
  (isSome_push := fun r v hi => by
    show _ ↔ AcceptsAll r.inner v
    rw [← isSome_runPushes hi.1]
    simp only [SliceRegion.push_eq, pushAll_eq]
    cases runPushes r.inner v <;> rfl)
  (push_post := by
    intro r r' v i ⟨hin, hc, hs⟩ hp
    obtain ⟨hpa, rfl⟩ := SliceRegion.push_eq_some.mp hp
    obtain ⟨is, h1, h2, h3, h4, h5, ⟨us, h6, h7⟩, h8⟩ := pushAll_spec r.inner r.slices v _ _ hin hc hs hpa
    have hv : Valid r' ((IdxCont.iter r.slices).length, (IdxCont.iter r'.slices).length) := by
      simp [SliceRegion.valid_iff, h1]
    refine ⟨⟨h3, h4, h5⟩, hv, ⟨us, ?_, h7⟩, fun j hj => ?_⟩
    · rw [SliceRegion.index_eq_of_valid hv, h1]
      simpa using h6
    · have hj' : Valid r' j := ⟨hj.1, by rw [h1, List.length_append]; exact Nat.le_add_right_of_le hj.2⟩
      rw [SliceRegion.index_eq_of_valid hj', SliceRegion.index_eq_of_valid hj, h1, take_drop_append_left _ _ _ _ hj.2]
      exact ⟨hj', readAll_congr r'.inner r.inner _ fun k hk => (h8 k (hs k (mem_take_drop _ _ _ _ hk))).2⟩)
  (valid_reads := fun r j ⟨hin, _, hs⟩ hv => by
    rw [SliceRegion.index_eq_of_valid hv]
    exact readAll_some_of_valid r.inner _ hin fun k hk => hs k (mem_take_drop _ _ _ _ hk))
  (clear_inv := fun r hi => ⟨clear_inv r.inner hi.1, LawfulIdxCont.inv_clear r.slices,
    fun j hj => by
      simp only [Region.clear, LawfulIdxCont.iter_clear] at hj
      cases hj⟩)
  (clear_sim := fun r hi =>
    ⟨by simp only [Region.clear, Region.default, LawfulIdxCont.iter_clear, LawfulIdxCont.iter_default],
      clear_sim r.inner hi.1⟩)
  (sim_refl := fun r hi => ⟨rfl, sim_refl r.inner hi.1⟩)
  (sim_push := by
    intro a b v ⟨hit, hsin⟩ ha hb
    obtain ⟨ht, hrun⟩ := sim_pushes a.inner b.inner v hsin ha.1 hb.1
    have hit' : IdxCont.iter ((trace a.inner v).foldl IdxCont.push a.slices) =
        IdxCont.iter ((trace b.inner v).foldl IdxCont.push b.slices) := by
      rw [(LawfulIdxCont.foldl_push _ _ ha.2.1).2, (LawfulIdxCont.foldl_push _ _ hb.2.1).2, ht, hit]
    simp only [SliceRegion.push_eq, pushAll_eq]
    rcases hrun with ⟨h1, h2⟩ | ⟨a', b', h1, h2, h3, -, -⟩
    · exact Or.inl ⟨by rw [h1]; rfl, by rw [h2]; rfl⟩
    · exact Or.inr ⟨⟨_, a'⟩, ⟨_, b'⟩, _, by rw [h1]; rfl, by rw [h2, hit, hit']; rfl, hit', h3⟩)
  (sim_index := by
    intro a b i ⟨hit, hsin⟩ ha hb
    have hv : Valid a i ↔ Valid b i := by simp only [SliceRegion.valid_iff, hit]
    refine ⟨hv, fun hva => ?_⟩
    rw [SliceRegion.index_eq_of_valid hva, SliceRegion.index_eq_of_valid (hv.mp hva), ← hit]
    exact readAll_sim a.inner b.inner _ hsin ha.1 hb.1 fun k hk => ha.2.2 k (mem_take_drop _ _ _ _ hk))

end
end FC
