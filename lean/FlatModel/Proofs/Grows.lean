import FlatModel.Proofs.CapsGrowth
import FlatModel.Proofs.Heap
import FlatModel.Proofs.Collapse
import FlatModel.Proofs.Stack
/-! Amortised growth for regions whose number of storages is not fixed (C17, last sentence).

`Sized` (`Proofs/Caps.lean`) describes a region as a *fixed* list of vectors. `ColumnsRegion` gains
storages when a wider row arrives, and `heap_size` reports the new ones in the middle of its list, so
positions in `capsOf r` are not stable. Here every pair `heap_size` reports gets a *key* (a path
through the composition: which field, which column, which vector of an index container), keys never
disappear, and the capacity of a storage is a function of its key that is `0` while the storage does
not exist yet:

* `Grows R`: `keys r` (one key per reported pair, in callback order), `capAt r k` (the reported
  capacity in bytes, `0` for keys not in `keys r`), `tracked k` (false exactly for the entries whose
  capacity the model does not track, see `C17.columnsVec_not_cstep` in Props/C17Grows.lean);
* `GrowthLaw G P`: under the invariant `P` (for the structural instances `HeapInv.CapInv`)
  `(keys r).map (capAt r) = capsOf r` — so `capAt` is what the `heap_size` callback receives —,
  keys are distinct, a push maps the old keys into the new ones preserving order (`List.Sublist`),
  and every tracked capacity stays or at least doubles (`cstep`), also from `0` (first allocation);
* `IdxGrows O`: the same for an index container (fixed list of vectors, `vstep`).

Instances: every structural region constructor over any index container `Capd C` with
`LawfulStores C` (`Vec`, `IndexList`, `IndexOptimized`). Bridge: `Grows.ofSized`.

How the instances are proved. A composite region reports the storages of its parts one after the
other. `PartLaw` is the growth law for the view of *one part* (a sub-region, or an index container);
it is closed under putting two parts side by side (`PartLaw.join`), a sub-region with `GrowthLaw`
gives one as soon as every push of the composite is a batch of pushes into it (`GrowthLaw.part`), and
so does an index container with `IdxGrows` (`PartLaw.idx`). What a push of each composite does to its
parts is in the `*_pushes` lemmas next to the region instances. -/
namespace FC
open Region

class IdxGrows (O : Type) {T : outParam Type} [IdxCont O T] [IdxAux O] [IdxHeapInv O] : Prop where
  push_step : ∀ (c : O) (x : T), IdxHeapInv.CapInv c → vstep (capsI c) (capsI (IdxCont.push c x))
  clear_caps : ∀ c : O, IdxHeapInv.CapInv c → capsI (IdxCont.clear c) = capsI c

/-- `Vec<T>`, `IndexList`, `IndexOptimized` (spill included): `Capd.fit` grows a vector only when its
new length exceeds the capacity, and then by `grow` -/
instance idxGrows_capd {C T : Type} [IdxCont C T] [HasStores C] [L : LawfulStores C] : IdxGrows (Capd C) where
  push_step c x h := by
    rw [capd_capsI c h, capd_capsI _ (capd_cap_push c x h)]
    exact vstep_mul (vstep_fit _ _ (by rw [L.lens_len, capd_caps_len c h])) _
  clear_caps c h := by
    rw [capd_capsI c h, capd_capsI _ (capd_cap_clear c h)]
    rfl

abbrev Key := List Nat

def leafKeys (n : Nat) : List Key := (List.range n).map fun j => [j]

def leafAt (l : List Nat) : Key → Nat
  | [j] => l.getD j 0
  | _ => 0

def tagKeys (t : Nat) (ks : List Key) : List Key := ks.map (t :: ·)

def join2 (f g : Key → Nat) : Key → Nat
  | 0 :: k => f k
  | 1 :: k => g k
  | _ => 0

def join2B (f g : Key → Bool) : Key → Bool
  | 0 :: k => f k
  | 1 :: k => g k
  | _ => true

@[simp] theorem leafAt_singleton (l : List Nat) (j : Nat) : leafAt l [j] = l.getD j 0 := rfl
@[simp] theorem join2_zero (f g : Key → Nat) (k : Key) : join2 f g (0 :: k) = f k := rfl
@[simp] theorem join2_one (f g : Key → Nat) (k : Key) : join2 f g (1 :: k) = g k := rfl
@[simp] theorem join2B_zero (f g : Key → Bool) (k : Key) : join2B f g (0 :: k) = f k := rfl
@[simp] theorem join2B_one (f g : Key → Bool) (k : Key) : join2B f g (1 :: k) = g k := rfl

theorem map_leafAt (l : List Nat) : (leafKeys l.length).map (leafAt l) = l := by
  apply List.ext_getElem
  · simp [leafKeys]
  · intro i h1 h2
    simp [leafKeys, List.getD_eq_getElem?_getD, List.getElem?_eq_getElem h2]

theorem leafKeys_nodup (n : Nat) : (leafKeys n).Nodup :=
  List.Pairwise.map _ (fun a b hab h => hab (by simpa using h)) List.nodup_range

theorem leafAt_notin (l : List Nat) (k : Key) (h : k ∉ leafKeys l.length) : leafAt l k = 0 := by
  match k with
  | [] => rfl
  | [j] =>
    have : ¬ j < l.length := fun hj => h (List.mem_map.2 ⟨j, List.mem_range.2 hj, rfl⟩)
    simp [List.getD_eq_getElem?_getD, List.getElem?_eq_none (Nat.le_of_not_lt this)]
  | _ :: _ :: _ => rfl

theorem leafAt_step {a b : List Nat} (h : vstep a b) (k : Key) : cstep (leafAt a k) (leafAt b k) := by
  match k with
  | [] => exact cstep_refl _
  | [j] => exact vstep_getD h j
  | _ :: _ :: _ => exact cstep_refl _

theorem mem_tagKeys {t : Nat} {ks : List Key} {k : Key} : t :: k ∈ tagKeys t ks ↔ k ∈ ks :=
  List.mem_map_of_injective fun _ _ h => List.tail_eq_of_cons_eq h

theorem head_of_mem_tagKeys {t : Nat} {ks : List Key} {k : Key} (h : k ∈ tagKeys t ks) : k.head? = some t := by
  obtain ⟨k', _, rfl⟩ := List.mem_map.1 h
  rfl

theorem tagKeys_nodup (t : Nat) {ks : List Key} (h : ks.Nodup) : (tagKeys t ks).Nodup :=
  List.Pairwise.map _ (fun a b hab h' => hab (by simpa using h')) h

theorem map_join2 (f g : Key → Nat) (ka kb : List Key) :
    (tagKeys 0 ka ++ tagKeys 1 kb).map (join2 f g) = ka.map f ++ kb.map g := by
  simp [tagKeys, List.map_map, Function.comp_def]

theorem nodup_append_of_head {a b : List Key} {t : Nat} (ha : a.Nodup) (hb : b.Nodup)
    (h1 : ∀ k ∈ a, k.head? ≠ some t) (h2 : ∀ k ∈ b, k.head? = some t) : (a ++ b).Nodup :=
  List.nodup_append.2 ⟨ha, hb, fun k hk k' hk' e => h1 k hk (e ▸ h2 k' hk')⟩

theorem join2_nodup {ka kb : List Key} (ha : ka.Nodup) (hb : kb.Nodup) : (tagKeys 0 ka ++ tagKeys 1 kb).Nodup :=
  nodup_append_of_head (tagKeys_nodup 0 ha) (tagKeys_nodup 1 hb) (fun _ hk => by rw [head_of_mem_tagKeys hk]; decide)
    fun _ => head_of_mem_tagKeys

theorem join2_notin {f g : Key → Nat} {ka kb : List Key} (hf : ∀ k, k ∉ ka → f k = 0) (hg : ∀ k, k ∉ kb → g k = 0)
    (k : Key) (h : k ∉ tagKeys 0 ka ++ tagKeys 1 kb) : join2 f g k = 0 := by
  rw [List.mem_append, not_or] at h
  match k with
  | [] => rfl
  | 0 :: k' => exact hf k' fun hk => h.1 (mem_tagKeys.2 hk)
  | 1 :: k' => exact hg k' fun hk => h.2 (mem_tagKeys.2 hk)
  | (_ + 2) :: _ => rfl

theorem join2_step {f f' g g' : Key → Nat} {ta tb : Key → Bool}
    (hf : ∀ k, ta k = true → cstep (f k) (f' k)) (hg : ∀ k, tb k = true → cstep (g k) (g' k))
    (k : Key) (ht : join2B ta tb k = true) : cstep (join2 f g k) (join2 f' g' k) := by
  match k with
  | [] => exact cstep_refl _
  | 0 :: k' => exact hf k' ht
  | 1 :: k' => exact hg k' ht
  | (_ + 2) :: _ => exact cstep_refl _

theorem join2B_true {f g : Key → Bool} (hf : ∀ k, f k = true) (hg : ∀ k, g k = true) (k : Key) : join2B f g k = true := by
  match k with
  | [] => rfl
  | 0 :: k' => exact hf k'
  | 1 :: k' => exact hg k'
  | (_ + 2) :: _ => rfl

class Grows (R : Type) {V I : outParam Type} [Region R V I] [RegionAux R] where
  keys : R → List Key
  capAt : R → Key → Nat
  tracked : Key → Bool

structure GrowthLaw {R V I : Type} [Region R V I] [RegionAux R] (G : Grows R) (P : R → Prop) : Prop where
  inv_push : ∀ (r r' : R) (v : V) (i : I), P r → push r v = some (r', i) → P r'
  inv_clear : ∀ r : R, P r → P (clear r)
  keys_caps : ∀ r : R, P r → (G.keys r).map (G.capAt r) = capsOf r
  keys_nodup : ∀ r : R, (G.keys r).Nodup
  capAt_notin : ∀ (r : R) (k : Key), k ∉ G.keys r → G.capAt r k = 0
  keys_push : ∀ (r r' : R) (v : V) (i : I), P r → push r v = some (r', i) → (G.keys r).Sublist (G.keys r')
  push_step : ∀ (r r' : R) (v : V) (i : I), P r → push r v = some (r', i) →
    ∀ k, G.tracked k = true → cstep (G.capAt r k) (G.capAt r' k)
  keys_clear : ∀ r : R, P r → G.keys (clear r) = G.keys r
  /-- `clear` releases nothing. Not `=`: `ConsecutiveIndexPairs::clear` pushes the leading `0` again, a push
  like any other (hence `cstep`); equality needs more than `P`, see `Proofs/GrowsClear.lean` -/
  clear_step : ∀ r : R, P r → ∀ k, G.tracked k = true → cstep (G.capAt r k) (G.capAt (clear r) k)

class LawfulGrows (R : Type) {V I : outParam Type} [Region R V I] [RegionAux R] [HeapInv R] [G : Grows R] : Prop where
  law : GrowthLaw G (HeapInv.CapInv (R := R))

theorem GrowthLaw.pushes {R V I : Type} [Region R V I] [RegionAux R] {G : Grows R} {P : R → Prop} (L : GrowthLaw G P)
    {r r' : R} (hp : Pushes r r') (h : P r) :
    P r' ∧ (G.keys r).Sublist (G.keys r') ∧ ∀ k, G.tracked k = true → cstep (G.capAt r k) (G.capAt r' k) :=
  hp.closed (S := fun x => P x ∧ (G.keys r).Sublist (G.keys x) ∧ ∀ k, G.tracked k = true → cstep (G.capAt r k) (G.capAt x k))
    (fun _ _ _ _ ⟨g0, g1, g2⟩ h1 => ⟨L.inv_push _ _ _ _ g0 h1, g1.trans (L.keys_push _ _ _ _ g0 h1),
      fun k hk => cstep_trans (g2 k hk) (L.push_step _ _ _ _ g0 h1 k hk)⟩)
    ⟨h, .refl _, fun _ _ => cstep_refl _⟩

theorem IdxGrows.pushes {O T : Type} [IdxCont O T] [IdxAux O] [IdxHeapInv O] [LawfulIdxHeap O] [LO : IdxGrows O]
    {c c' : O} (hp : IdxPushes c c') (h : IdxHeapInv.CapInv c) : vstep (capsI c) (capsI c') :=
  (hp.closed (S := fun x => IdxHeapInv.CapInv x ∧ vstep (capsI c) (capsI x)) (fun _ x ha =>
    ⟨LawfulIdxHeap.cap_push _ x ha.1, vstep_trans ha.2 (LO.push_step _ x ha.1)⟩) ⟨h, vstep_refl _⟩).2

/-- `ConsecutiveIndexPairs::clear` empties the offsets and writes the leading `0` again: a push into a cleared container -/
theorem IdxGrows.clear_push {O T : Type} [IdxCont O T] [IdxAux O] [IdxHeapInv O] [LawfulIdxHeap O] [LO : IdxGrows O]
    (c : O) (x : T) (h : IdxHeapInv.CapInv c) : vstep (capsI c) (capsI (IdxCont.push (IdxCont.clear c) x)) := by
  have := LO.push_step (IdxCont.clear c) x (LawfulIdxHeap.cap_clear c h)
  rwa [LO.clear_caps c h] at this

section Part
variable {R V I : Type} [Region R V I]

/-- the growth law for a keyed view (`ks`, `f`, tracked `t`) of those storages of `R` whose
capacities are `c r`: `GrowthLaw` for a part of what `heap_size` reports -/
structure PartLaw (P : R → Prop) (t : Key → Bool) (ks : R → List Key) (f : R → Key → Nat) (c : R → List Nat) : Prop where
  caps : ∀ r, P r → (ks r).map (f r) = c r
  nodup : ∀ r, (ks r).Nodup
  notin : ∀ r k, k ∉ ks r → f r k = 0
  keys_push : ∀ (r r' : R) (v : V) (i : I), P r → push r v = some (r', i) → (ks r).Sublist (ks r')
  push_step : ∀ (r r' : R) (v : V) (i : I), P r → push r v = some (r', i) → ∀ k, t k = true → cstep (f r k) (f r' k)
  keys_clear : ∀ r, P r → ks (clear r) = ks r
  clear_step : ∀ r, P r → ∀ k, t k = true → cstep (f r k) (f (clear r) k)

variable {P : R → Prop}

theorem GrowthLaw.ofPart [RegionAux R] {G : Grows R} {c : R → List Nat}
    (inv_push : ∀ (r r' : R) (v : V) (i : I), P r → push r v = some (r', i) → P r') (inv_clear : ∀ r : R, P r → P (clear r))
    (hc : ∀ r : R, capsOf r = c r) (L : PartLaw P G.tracked G.keys G.capAt c) : GrowthLaw G P :=
  { inv_push, inv_clear, keys_caps := fun r h => (L.caps r h).trans (hc r).symm, keys_nodup := L.nodup, capAt_notin := L.notin,
    keys_push := L.keys_push, push_step := L.push_step, keys_clear := L.keys_clear, clear_step := L.clear_step }

theorem GrowthLaw.part {A VA IA : Type} [Region A VA IA] [RegionAux A] {GA : Grows A} {PA : A → Prop} (L : GrowthLaw GA PA)
    (π : R → A) (hP : ∀ r, P r → PA (π r))
    (hpush : ∀ {r r' : R} {v : V} {i : I}, push r v = some (r', i) → Pushes (π r) (π r'))
    (hclear : ∀ r, π (clear r) = clear (π r)) :
    PartLaw P GA.tracked (fun r => GA.keys (π r)) (fun r => GA.capAt (π r)) (fun r => capsOf (π r)) where
  caps r h := L.keys_caps _ (hP r h)
  nodup r := L.keys_nodup _
  notin r := L.capAt_notin _
  keys_push r _ _ _ h hp := (L.pushes (hpush hp) (hP r h)).2.1
  push_step r _ _ _ h hp := (L.pushes (hpush hp) (hP r h)).2.2
  keys_clear r h := by rw [hclear]; exact L.keys_clear _ (hP r h)
  clear_step r h := by rw [hclear]; exact L.clear_step _ (hP r h)

theorem PartLaw.leaf (c : R → List Nat)
    (hpush : ∀ (r r' : R) (v : V) (i : I), P r → push r v = some (r', i) → vstep (c r) (c r'))
    (hclear : ∀ r : R, P r → vstep (c r) (c (clear r))) :
    PartLaw P (fun _ => true) (fun r => leafKeys (c r).length) (fun r => leafAt (c r)) c where
  caps r _ := map_leafAt _
  nodup r := leafKeys_nodup _
  notin r := leafAt_notin _
  keys_push r r' v i h hp := by rw [vstep_length (hpush r r' v i h hp)]
  push_step r r' v i h hp k _ := leafAt_step (hpush r r' v i h hp) k
  keys_clear r h := by rw [vstep_length (hclear r h)]
  clear_step r h k _ := leafAt_step (hclear r h) k

theorem PartLaw.idx {O T : Type} [IdxCont O T] [IdxAux O] [IdxHeapInv O] [LawfulIdxHeap O] [IdxGrows O]
    (π : R → O) (hP : ∀ r, P r → IdxHeapInv.CapInv (π r))
    (hpush : ∀ {r r' : R} {v : V} {i : I}, push r v = some (r', i) → IdxPushes (π r) (π r'))
    (hclear : ∀ r : R, P r → vstep (capsI (π r)) (capsI (π (clear r)))) :
    PartLaw P (fun _ => true) (fun r => leafKeys (capsI (π r)).length) (fun r => leafAt (capsI (π r))) (fun r => capsI (π r)) :=
  .leaf _ (fun r _ _ _ h hp => IdxGrows.pushes (hpush hp) (hP r h)) hclear

theorem PartLaw.join {ta tb : Key → Bool} {ka kb : R → List Key} {fa fb : R → Key → Nat} {ca cb : R → List Nat}
    (A : PartLaw P ta ka fa ca) (B : PartLaw P tb kb fb cb) :
    PartLaw P (join2B ta tb) (fun r => tagKeys 0 (ka r) ++ tagKeys 1 (kb r)) (fun r => join2 (fa r) (fb r))
      (fun r => ca r ++ cb r) where
  caps r h := by rw [map_join2, A.caps r h, B.caps r h]
  nodup r := join2_nodup (A.nodup r) (B.nodup r)
  notin r := join2_notin (A.notin r) (B.notin r)
  keys_push r r' v i h hp := ((A.keys_push r r' v i h hp).map _).append ((B.keys_push r r' v i h hp).map _)
  push_step r r' v i h hp := join2_step (A.push_step r r' v i h hp) (B.push_step r r' v i h hp)
  keys_clear r h := by rw [A.keys_clear r h, B.keys_clear r h]
  clear_step r h := join2_step (A.clear_step r h) (B.clear_step r h)
end Part

@[reducible] def Grows.leaf (R : Type) {V I : Type} [Region R V I] [RegionAux R] : Grows R where
  keys r := leafKeys (capsOf r).length
  capAt r := leafAt (capsOf r)
  tracked _ := true

theorem GrowthLaw.leaf {R V I : Type} [Region R V I] [RegionAux R] {P : R → Prop}
    (hpush : ∀ (r r' : R) (v : V) (i : I), P r → push r v = some (r', i) → P r')
    (hclear : ∀ r : R, P r → P (clear r))
    (hstep : ∀ (r r' : R) (v : V) (i : I), P r → push r v = some (r', i) → vstep (capsOf r) (capsOf r'))
    (hcstep : ∀ r : R, P r → vstep (capsOf r) (capsOf (clear r))) : GrowthLaw (Grows.leaf R) P :=
  .ofPart hpush hclear (fun _ => rfl) (.leaf _ hstep hcstep)

section Bridge
variable {R V I : Type} [Region R V I] [RegionAux R] [Sized R] [L : LawfulSized R]

@[reducible] def Grows.ofSized (R : Type) {V I : Type} [Region R V I] [RegionAux R] [Sized R] : Grows R := Grows.leaf R

theorem capsOf_sized (r : R) (h : Sized.CInv r) : capsOf r = vmul (Sized.caps r) (Sized.sizes R) := L.heap_caps r h

variable [G : LawfulGrowth R]

theorem GrowthLaw.ofSized : GrowthLaw (Grows.ofSized R) (Sized.CInv (R := R)) :=
  GrowthLaw.leaf L.push_cinv G.clear_cinv
    (fun r r' v i h hp => by
      rw [capsOf_sized r h, capsOf_sized r' (L.push_cinv r r' v i h hp)]
      exact vstep_mul (G.push_step r r' v i h hp) _)
    (fun r h => by rw [capsOf_sized r h, capsOf_sized _ (G.clear_cinv r h), G.clear_caps]; exact vstep_refl _)

theorem Grows.ofSized_capAt (r : R) (h : Sized.CInv r) (j : Nat) :
    (Grows.ofSized R).capAt r [j] = (vmul (Sized.caps r) (Sized.sizes R)).getD j 0 := by
  show (capsOf r).getD j 0 = _
  rw [capsOf_sized r h]
end Bridge

instance grows_mirror (T : Type) : Grows (MirrorRegion T) := Grows.leaf _
instance lawfulGrows_mirror (T : Type) : LawfulGrows (MirrorRegion T) where
  law := GrowthLaw.leaf (fun _ _ _ _ _ _ => trivial) (fun _ _ => trivial) (fun _ _ _ _ _ _ => trivial) (fun _ _ => trivial)

instance grows_tupleNil : Grows TupleNil := Grows.leaf _
instance lawfulGrows_tupleNil : LawfulGrows TupleNil where
  law := GrowthLaw.leaf (fun _ _ _ _ _ _ => trivial) (fun _ _ => trivial) (fun _ _ _ _ _ _ => trivial) (fun _ _ => trivial)

instance grows_owned (T : Type) [ElemSize T] : Grows (OwnedRegion T) := Grows.leaf _
instance lawfulGrows_owned (T : Type) [ElemSize T] : LawfulGrows (OwnedRegion T) where
  law := GrowthLaw.leaf LawfulHeap.cap_push LawfulHeap.cap_clear
    (fun r r' v i _ hp => by
      cases hp
      exact ⟨cstep_mul (reserve_cap_step _ _) _, trivial⟩)
    (fun r _ => vstep_refl _)

instance grows_vec (T : Type) [ElemSize T] : Grows (VecRegion T) := Grows.leaf _
instance lawfulGrows_vec (T : Type) [ElemSize T] : LawfulGrows (VecRegion T) where
  law := GrowthLaw.leaf LawfulHeap.cap_push LawfulHeap.cap_clear
    (fun r r' v i _ hp => by
      cases hp
      exact ⟨cstep_mul (reserve_cap_step _ _) _, trivial⟩)
    (fun r _ => vstep_refl _)

section String
variable {R I : Type} [Region R (List UInt8) I] [RegionAux R] [HeapInv R] [LawfulHeap R] [Grows R] [L : LawfulGrows R]

instance grows_string : Grows (StringRegion R) where
  keys r := Grows.keys r.inner
  capAt r := Grows.capAt r.inner
  tracked := Grows.tracked R

instance lawfulGrows_string : LawfulGrows (StringRegion R) where
  law := .ofPart LawfulHeap.cap_push LawfulHeap.cap_clear (fun _ => rfl) <|
    L.law.part StringRegion.inner (fun _ h => h) string_pushes (fun _ => rfl)
end String

section Option
variable {R V I : Type} [Region R V I] [RegionAux R] [HeapInv R] [LawfulHeap R] [Grows R] [L : LawfulGrows R]

instance grows_option : Grows (OptionRegion R) where
  keys r := Grows.keys r.inner
  capAt r := Grows.capAt r.inner
  tracked := Grows.tracked R

instance lawfulGrows_option : LawfulGrows (OptionRegion R) where
  law := .ofPart LawfulHeap.cap_push LawfulHeap.cap_clear (fun _ => rfl) <|
    L.law.part OptionRegion.inner (fun _ h => h) option_pushes (fun _ => rfl)
end Option

section Collapse
variable {R V I : Type} [Region R V I] [HasEqv V] [RegionAux R] [IndexSize I] [HeapInv R] [LawfulHeap R] [Grows R]
  [L : LawfulGrows R]

instance grows_collapse : Grows (CollapseSequence R I) where
  keys r := Grows.keys r.inner
  capAt r := Grows.capAt r.inner
  tracked := Grows.tracked R

instance lawfulGrows_collapse : LawfulGrows (CollapseSequence R I) where
  law := .ofPart LawfulHeap.cap_push LawfulHeap.cap_clear (fun _ => rfl) <|
    L.law.part CollapseSequence.inner (fun _ h => h) collapse_pushes (fun _ => rfl)
end Collapse

section Result
variable {T VT IT E VE IE : Type} [Region T VT IT] [Region E VE IE] [RegionAux T] [RegionAux E]
  [HeapInv T] [HeapInv E] [LawfulHeap T] [LawfulHeap E] [Grows T] [Grows E] [LT : LawfulGrows T] [LE : LawfulGrows E]

instance grows_result : Grows (ResultRegion T E) where
  keys r := tagKeys 0 (Grows.keys r.oks) ++ tagKeys 1 (Grows.keys r.errs)
  capAt r := join2 (Grows.capAt r.oks) (Grows.capAt r.errs)
  tracked := join2B (Grows.tracked T) (Grows.tracked E)

instance lawfulGrows_result : LawfulGrows (ResultRegion T E) where
  law := .ofPart LawfulHeap.cap_push LawfulHeap.cap_clear result_caps <|
    (LT.law.part ResultRegion.oks (fun _ h => h.1) (fun hp => (result_pushes hp).1) (fun _ => rfl)).join
      (LE.law.part ResultRegion.errs (fun _ h => h.2) (fun hp => (result_pushes hp).2) (fun _ => rfl))
end Result

section Tuple
variable {A VA IA B VB IB : Type} [Region A VA IA] [Region B VB IB] [RegionAux A] [RegionAux B]
  [HeapInv A] [HeapInv B] [LawfulHeap A] [LawfulHeap B] [Grows A] [Grows B] [LA : LawfulGrows A] [LB : LawfulGrows B]

instance grows_tuple : Grows (TupleCons A B) where
  keys r := tagKeys 0 (Grows.keys r.head) ++ tagKeys 1 (Grows.keys r.tail)
  capAt r := join2 (Grows.capAt r.head) (Grows.capAt r.tail)
  tracked := join2B (Grows.tracked A) (Grows.tracked B)

instance lawfulGrows_tuple : LawfulGrows (TupleCons A B) where
  law := .ofPart LawfulHeap.cap_push LawfulHeap.cap_clear tuple_caps <|
    (LA.law.part TupleCons.head (fun _ h => h.1) (fun hp => (tuple_pushes hp).1) (fun _ => rfl)).join
      (LB.law.part TupleCons.tail (fun _ h => h.2) (fun hp => (tuple_pushes hp).2) (fun _ => rfl))
end Tuple

section Slice
variable {R V I O : Type} [Region R V I] [IdxCont O I] [RegionAux R] [IdxAux O] [HeapInv R] [IdxHeapInv O]
  [LawfulHeap R] [LawfulIdxHeap O] [Grows R] [L : LawfulGrows R] [LO : IdxGrows O]

instance grows_slice : Grows (SliceRegion R O) where
  keys r := tagKeys 0 (leafKeys (capsI r.slices).length) ++ tagKeys 1 (Grows.keys r.inner)
  capAt r := join2 (leafAt (capsI r.slices)) (Grows.capAt r.inner)
  tracked := join2B (fun _ => true) (Grows.tracked R)

instance lawfulGrows_slice : LawfulGrows (SliceRegion R O) where
  law := .ofPart LawfulHeap.cap_push LawfulHeap.cap_clear slice_caps <|
    (PartLaw.idx SliceRegion.slices (fun _ h => h.1) (fun hp => (slice_pushes hp).2)
      (fun _ h => vstep_of_eq (LO.clear_caps _ h.1))).join
    (L.law.part SliceRegion.inner (fun _ h => h.2) (fun hp => (slice_pushes hp).1) (fun _ => rfl))
end Slice

section Consec
variable {R V O : Type} [Region R V (Nat × Nat)] [DenseRegion R] [IdxCont O Nat] [RegionAux R] [IdxAux O]
  [HeapInv R] [IdxHeapInv O] [LawfulHeap R] [LawfulIdxHeap O] [Grows R] [L : LawfulGrows R] [LO : IdxGrows O]

instance grows_consec : Grows (ConsecPairs R O) where
  keys r := tagKeys 0 (leafKeys (capsI r.indices).length) ++ tagKeys 1 (Grows.keys r.inner)
  capAt r := join2 (leafAt (capsI r.indices)) (Grows.capAt r.inner)
  tracked := join2B (fun _ => true) (Grows.tracked R)

instance lawfulGrows_consec : LawfulGrows (ConsecPairs R O) where
  law := .ofPart LawfulHeap.cap_push LawfulHeap.cap_clear consec_caps <|
    (PartLaw.idx ConsecPairs.indices (fun _ h => h.2.1) (fun hp => (consec_pushes hp).2)
      (fun r h => IdxGrows.clear_push r.indices 0 h.2.1)).join
    (L.law.part ConsecPairs.inner (fun _ h => h.1) (fun hp => (consec_pushes hp).1) (fun _ => rfl))
end Consec

section Stack
variable {R V I S : Type} [Region R V I] [IdxCont S I] [RegionAux R] [IdxAux S] [HeapInv R] [IdxHeapInv S]
  [LawfulHeap R] [LawfulIdxHeap S] [Grows R] [L : LawfulGrows R] [LS : IdxGrows S]

instance grows_stack : Grows (FlatStack R S) where
  keys fs := tagKeys 0 (Grows.keys fs.region) ++ tagKeys 1 (leafKeys (capsI fs.indices).length)
  capAt fs := join2 (Grows.capAt fs.region) (leafAt (capsI fs.indices))
  tracked := join2B (Grows.tracked R) (fun _ => true)

instance lawfulGrows_stack : LawfulGrows (FlatStack R S) where
  law := .ofPart LawfulHeap.cap_push LawfulHeap.cap_clear stack_caps <|
    (L.law.part FlatStack.region (fun _ h => h.1) (fun hp => (stack_pushes hp).1) (fun _ => rfl)).join
    (PartLaw.idx FlatStack.indices (fun _ h => h.2) (fun hp => (stack_pushes hp).2)
      (fun _ h => vstep_of_eq (LS.clear_caps _ h.2)))
end Stack

/-! ### columns: the column vector (key `[0]`, not tracked), column `j` (keys `1 :: j :: k`), the row
offsets (keys `2 :: k`). A wider row appends columns: their storages appear, in `heap_size` order,
between those of the last old column and those of the row offsets. -/
section Columns
variable {R V I O : Type} [Region R V I] [IdxCont O Nat] [RegionAux R] [IdxAux O] [ElemSize I]
  [HeapInv R] [IdxHeapInv O] [LawfulHeap R] [LawfulIdxHeap O] [Grows R] [L : LawfulGrows R] [LO : IdxGrows O]

def colKeys (j0 : Nat) : List R → List Key
  | [] => []
  | c :: cs => (Grows.keys c).map (fun k => 1 :: j0 :: k) ++ colKeys (j0 + 1) cs

def colsAt (cs : List R) : Key → Nat
  | j :: k => match cs[j]? with
    | some c => Grows.capAt c k
    | none => 0
  | [] => 0

def columnsAt (r : ColumnsRegion R I O) : Key → Nat
  | [0] => r.cols.length * RegionAux.selfSize R
  | 1 :: k => colsAt r.cols k
  | 2 :: k => Grows.capAt r.indices k
  | _ => 0

/-- the capacity of the column vector `Vec<R>` is not modelled (`Model/Ops.lean` reports its length) -/
def columnsTracked (tr ti : Key → Bool) : Key → Bool
  | [0] => false
  | 1 :: _ :: k => tr k
  | 2 :: k => ti k
  | _ => true

instance grows_columns : Grows (ColumnsRegion R I O) where
  keys r := [[0]] ++ colKeys 0 r.cols ++ tagKeys 2 (Grows.keys r.indices)
  capAt := columnsAt
  tracked := columnsTracked (Grows.tracked R) (Grows.tracked (ConsecPairs (OwnedRegion I) O))

@[simp] theorem colsAt_cons_zero (c : R) (cs : List R) (k : Key) : colsAt (c :: cs) (0 :: k) = Grows.capAt c k := rfl
end Columns

section Cols
variable {R V I : Type} [Region R V I] [RegionAux R] [Grows R]

@[simp] theorem colsAt_cons_succ (c : R) (cs : List R) (j : Nat) (k : Key) :
    colsAt (c :: cs) ((j + 1) :: k) = colsAt cs (j :: k) := by
  simp [colsAt]

theorem colsAt_some {cs : List R} {j : Nat} {c : R} (h : cs[j]? = some c) (k : Key) :
    colsAt cs (j :: k) = Grows.capAt c k := by
  simp [colsAt, h]
theorem colsAt_none {cs : List R} {j : Nat} (h : cs[j]? = none) (k : Key) : colsAt cs (j :: k) = 0 := by
  simp [colsAt, h]

theorem mem_colKeys {j0 : Nat} {cs : List R} {x : Key} :
    x ∈ colKeys j0 cs ↔ ∃ i c k, cs[i]? = some c ∧ k ∈ Grows.keys c ∧ x = 1 :: (j0 + i) :: k := by
  induction cs generalizing j0 with
  | nil => exact ⟨(nomatch ·), fun ⟨_, _, _, h, _⟩ => by cases h⟩
  | cons c cs ih =>
    rw [colKeys, List.mem_append, List.mem_map, ih]
    constructor
    · rintro (⟨k, hk, rfl⟩ | ⟨i, c', k, h1, h2, rfl⟩)
      · exact ⟨0, c, k, rfl, hk, rfl⟩
      · exact ⟨i + 1, c', k, h1, h2, by rw [Nat.add_right_comm, Nat.add_assoc]⟩
    · rintro ⟨i, c', k, h1, h2, rfl⟩
      cases i with
      | zero => cases h1; exact Or.inl ⟨k, h2, rfl⟩
      | succ i => exact Or.inr ⟨i, c', k, h1, h2, by rw [Nat.add_right_comm, Nat.add_assoc]⟩

theorem head_of_mem_colKeys {j0 : Nat} {cs : List R} {x : Key} (h : x ∈ colKeys j0 cs) : x.head? = some 1 := by
  obtain ⟨_, _, _, _, _, rfl⟩ := mem_colKeys.1 h
  rfl

theorem colKeys_append (j0 : Nat) (as bs : List R) :
    colKeys j0 (as ++ bs) = colKeys j0 as ++ colKeys (j0 + as.length) bs := by
  induction as generalizing j0 with
  | nil => simp [colKeys]
  | cons a as ih =>
    simp only [List.cons_append, colKeys, ih, List.append_assoc, List.length_cons]
    rw [show j0 + 1 + as.length = j0 + (as.length + 1) by omega]

theorem padCols_grows (cs : List R) (n j0 : Nat) :
    (colKeys j0 cs).Sublist (colKeys j0 (padCols cs n)) ∧
      ∀ j k, cstep (colsAt cs (j :: k)) (colsAt (padCols cs n) (j :: k)) := by
  refine ⟨?_, fun j k => ?_⟩
  · rw [padCols, colKeys_append]
    exact List.sublist_append_left _ _
  · cases h : cs[j]? with
    | none => rw [colsAt_none h]; exact cstep_zero _
    | some c =>
      have hj : j < cs.length := (List.getElem?_eq_some_iff.1 h).1
      rw [colsAt_some h, colsAt_some (c := c) (by rw [padCols, List.getElem?_append_left hj]; exact h)]
      exact cstep_refl _

variable [HeapInv R] [L : LawfulGrows R]

theorem colKeys_nodup (j0 : Nat) (cs : List R) : (colKeys j0 cs).Nodup := by
  induction cs generalizing j0 with
  | nil => exact List.nodup_nil
  | cons c cs ih =>
    refine List.nodup_append.2 ⟨List.Pairwise.map _ (fun a b hab h' => hab (by simpa using h')) (L.law.keys_nodup c), ih (j0 + 1), ?_⟩
    intro a h1 b h2 hab
    obtain ⟨k, _, rfl⟩ := List.mem_map.1 h1
    obtain ⟨i, c', k', _, _, rfl⟩ := mem_colKeys.1 h2
    simp at hab
    omega

theorem colsAt_notin {cs : List R} {j : Nat} {k : Key} (h : 1 :: j :: k ∉ colKeys 0 cs) : colsAt cs (j :: k) = 0 := by
  cases hj : cs[j]? with
  | none => exact colsAt_none hj k
  | some c =>
    rw [colsAt_some hj]
    exact L.law.capAt_notin c k fun hk => h (mem_colKeys.2 ⟨j, c, k, hj, hk, by rw [Nat.zero_add]⟩)

theorem cols_pushes {cs cs' : List R} (h : List.Forall₂ Pushes cs cs') (hc : ∀ c ∈ cs, HeapInv.CapInv c) (j0 : Nat) :
    (colKeys j0 cs).Sublist (colKeys j0 cs') ∧
      ∀ j k, Grows.tracked R k = true → cstep (colsAt cs (j :: k)) (colsAt cs' (j :: k)) := by
  induction h generalizing j0 with
  | nil => exact ⟨.refl _, fun _ _ _ => cstep_refl _⟩
  | @cons c c' cs cs' h1 _ ih =>
    obtain ⟨_, g1, g2⟩ := L.law.pushes h1 (hc c (by simp))
    obtain ⟨g3, g4⟩ := ih (fun x hx => hc x (by simp [hx])) (j0 + 1)
    refine ⟨(g1.map _).append g3, fun j k hk => ?_⟩
    cases j with
    | zero => exact g2 k hk
    | succ j => simpa using g4 j k hk

theorem cols_clear (cs : List R) (hc : ∀ c ∈ cs, HeapInv.CapInv c) (j0 : Nat) :
    colKeys j0 (cs.map clear) = colKeys j0 cs ∧
      ∀ j k, Grows.tracked R k = true → cstep (colsAt cs (j :: k)) (colsAt (cs.map clear) (j :: k)) := by
  induction cs generalizing j0 with
  | nil => exact ⟨rfl, fun _ _ _ => cstep_refl _⟩
  | cons c cs ih =>
    obtain ⟨g1, g2⟩ := ih (fun x hx => hc x (by simp [hx])) (j0 + 1)
    have hcc := hc c (by simp)
    refine ⟨by simp only [List.map_cons, colKeys, g1, L.law.keys_clear c hcc], fun j k hk => ?_⟩
    cases j with
    | zero => exact L.law.clear_step c hcc k hk
    | succ j => simpa using g2 j k hk

end Cols

section Columns
variable {R V I O : Type} [Region R V I] [IdxCont O Nat] [RegionAux R] [IdxAux O] [ElemSize I] [Grows R]

/-- the arms are those the equation compiler splits `columnsAt` and `columnsTracked` into, so that both reduce
in each of them (likewise in `capAt_notin` of `lawfulGrows_columns`) -/
theorem columnsAt_step {r r' : ColumnsRegion R I O} {tr ti : Key → Bool}
    (hc : ∀ j k, tr k = true → cstep (colsAt r.cols (j :: k)) (colsAt r'.cols (j :: k)))
    (hi : ∀ k, ti k = true → cstep (Grows.capAt r.indices k) (Grows.capAt r'.indices k))
    (k : Key) (hk : columnsTracked tr ti k = true) : cstep (columnsAt r k) (columnsAt r' k) := by
  match k, hk with
  | [], _ => exact cstep_refl _
  | 0 :: _ :: _, _ => exact cstep_refl _
  | [1], _ => exact cstep_refl _
  | 1 :: j :: k', hk => exact hc j k' hk
  | 2 :: k', hk => exact hi k' hk
  | (_ + 3) :: _, _ => exact cstep_refl _

variable [HeapInv R] [L : LawfulGrows R]

/-- the capacities of the columns, as `heap_size` lists them. `columnsAt r` looks a column up by its position in
`r.cols`, so `r` stays fixed while the induction walks the suffix `cs` of `r.cols` that starts at `j0`. -/
theorem map_colKeys (r : ColumnsRegion R I O) (j0 : Nat) (cs : List R) (h : r.cols.drop j0 = cs) (hc : ∀ c ∈ cs, HeapInv.CapInv c) :
    (colKeys j0 cs).map (columnsAt r) = (cs.map capsOf).flatten := by
  induction cs generalizing j0 with
  | nil => rfl
  | cons c cs ih =>
    have h0 : r.cols[j0]? = some c := by
      have := List.getElem?_drop (xs := r.cols) (i := j0) (j := 0)
      rw [h] at this
      simpa using this.symm
    have h1 : r.cols.drop (j0 + 1) = cs := by
      rw [← List.drop_drop, h]; rfl
    simp only [colKeys, List.map_append, List.map_map, List.map_cons, List.flatten_cons]
    rw [ih (j0 + 1) h1 (fun x hx => hc x (by simp [hx])), ← L.law.keys_caps c (hc c (by simp))]
    exact congrArg (· ++ _) (List.map_congr_left fun k _ => colsAt_some h0 k)

variable [IdxHeapInv O] [LawfulHeap R] [LawfulIdxHeap O] [LO : IdxGrows O]

instance lawfulGrows_columns : LawfulGrows (ColumnsRegion R I O) where
  law :=
    have Li := (LawfulGrows.law (R := ConsecPairs (OwnedRegion I) O)).part (ColumnsRegion.indices (R := R))
      (fun _ h => h.1) (fun hp => (columns_pushes hp).2) (fun _ => rfl)
    have hpush : ∀ (r r' : ColumnsRegion R I O) row i, HeapInv.CapInv r → push r row = some (r', i) →
        (colKeys 0 r.cols).Sublist (colKeys 0 r'.cols) ∧
          ∀ j k, Grows.tracked R k = true → cstep (colsAt r.cols (j :: k)) (colsAt r'.cols (j :: k)) :=
      fun r r' row i h hp => by
        obtain ⟨g1, g2⟩ := cols_pushes (columns_pushes hp).1 (padCols_capInv r.cols row.length h.2) 0
        obtain ⟨p1, p2⟩ := padCols_grows r.cols row.length 0
        exact ⟨p1.trans g1, fun j k hk => cstep_trans (p2 j k) (g2 j k hk)⟩
    { inv_push := LawfulHeap.cap_push
      inv_clear := LawfulHeap.cap_clear
      keys_caps := fun r h => by
        show ([[0]] ++ colKeys 0 r.cols ++ tagKeys 2 (Grows.keys r.indices)).map (columnsAt r) = _
        rw [List.map_append, List.map_append, map_colKeys r 0 r.cols rfl h.2, columns_caps, ← Li.caps r h]
        -- what is left: `columnsAt r [0]` is the column vector's entry, and `columnsAt r (2 :: k)` is `capAt r.indices k`
        simp [tagKeys, columnsAt, Function.comp_def]
      keys_nodup := fun r =>
        nodup_append_of_head
          (nodup_append_of_head (List.pairwise_singleton _ [0]) (colKeys_nodup 0 r.cols) (by simp) fun _ => head_of_mem_colKeys)
          (tagKeys_nodup 2 (Li.nodup r))
          (fun k hk => by
            rcases List.mem_append.1 hk with hk | hk
            · rw [List.mem_singleton.1 hk]; decide
            · rw [head_of_mem_colKeys hk]; decide)
          fun _ => head_of_mem_tagKeys
      capAt_notin := fun r k h => by
        have h : k ∉ [[0]] ++ colKeys 0 r.cols ++ tagKeys 2 (Grows.keys r.indices) := h
        simp only [List.mem_append, List.mem_singleton, not_or] at h
        show columnsAt r k = 0
        match k with
        | [] => rfl
        | [0] => exact absurd rfl h.1.1
        | 0 :: _ :: _ => rfl
        | [1] => rfl
        | 1 :: j :: k' => exact colsAt_notin h.1.2
        | 2 :: k' => exact Li.notin r k' fun hk => h.2 (mem_tagKeys.2 hk)
        | (_ + 3) :: _ => rfl
      keys_push := fun r r' row i h hp =>
        ((List.Sublist.refl _).append (hpush r r' row i h hp).1).append ((Li.keys_push r r' row i h hp).map _)
      push_step := fun r r' row i h hp => columnsAt_step (hpush r r' row i h hp).2 (Li.push_step r r' row i h hp)
      keys_clear := fun r h =>
        congrArg₂ (fun a b => [[0]] ++ a ++ tagKeys 2 b) (cols_clear r.cols h.2 0).1 (Li.keys_clear r h)
      clear_step := fun r h => columnsAt_step (cols_clear r.cols h.2 0).2 (Li.clear_step r h) }
end Columns

end FC
