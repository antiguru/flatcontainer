import FlatModel.Proofs.Stack
import FlatModel.Props.Catalogue
/-! Laws of the non-`push` half of the traits (C09, C10): reservations are invisible, merged regions
are fresh, clones are equal — all up to `Sim`, the bisimulation of `LawfulRegion`. -/
namespace FC
open Region

/-- index containers: the `Storage` operations never change the represented sequence -/
class LawfulIdxAux (O : Type) {T : outParam Type} [IdxCont O T] [IdxAux O] : Prop where
  reserve_iter : ∀ (c : O) n, IdxCont.iter (IdxAux.reserve c n) = IdxCont.iter c
  reserve_inv : ∀ (c : O) n, IdxCont.Inv c → IdxCont.Inv (IdxAux.reserve c n)
  withCapacity_iter : ∀ n, IdxCont.iter (IdxAux.withCapacity n : O) = []
  withCapacity_inv : ∀ n, IdxCont.Inv (IdxAux.withCapacity n : O)
  merge_iter : ∀ rs : List O, IdxCont.iter (IdxAux.mergeRegions rs) = []
  merge_inv : ∀ rs : List O, IdxCont.Inv (IdxAux.mergeRegions rs)
  clone_iter : ∀ c : O, IdxCont.iter (IdxAux.clone c) = IdxCont.iter c
  clone_inv : ∀ c : O, IdxCont.Inv c → IdxCont.Inv (IdxAux.clone c)
  cloneFrom_iter : ∀ d s : O, IdxCont.iter (IdxAux.cloneFrom d s) = IdxCont.iter s
  cloneFrom_inv : ∀ d s : O, IdxCont.Inv s → IdxCont.Inv (IdxAux.cloneFrom d s)

instance {C T : Type} [IdxCont C T] [HasStores C] [L : LawfulIdxCont C] : LawfulIdxAux (Capd C) where
  reserve_iter _ _ := rfl
  reserve_inv _ _ h := h
  withCapacity_iter _ := L.iter_default
  withCapacity_inv _ := L.inv_default
  merge_iter _ := L.iter_default
  merge_inv _ := L.inv_default
  clone_iter _ := rfl
  clone_inv _ h := h
  cloneFrom_iter _ _ := rfl
  cloneFrom_inv _ _ h := h

/-- regions: C10 (`reserve_*` invisible), C09 (`clone`, `clone_from` equal to the source) -/
class LawfulAux (R : Type) {V I : outParam Type} [Region R V I] [RegionAux R] : Prop where
  reserveItems_sim : ∀ (r : R) vs, Inv r → Sim (RegionAux.reserveItems r vs) r ∧ Inv (RegionAux.reserveItems r vs)
  reserveRegions_sim : ∀ (r : R) rs, Inv r → (∀ x ∈ rs, Region.Inv x) →
      Sim (RegionAux.reserveRegions r rs) r ∧ Inv (RegionAux.reserveRegions r rs)
  clone_sim : ∀ r : R, Inv r → Sim (RegionAux.clone r) r ∧ Inv (RegionAux.clone r)
  cloneFrom_sim : ∀ d s : R, Inv d → Inv s → Sim (RegionAux.cloneFrom d s) s ∧ Inv (RegionAux.cloneFrom d s)

/-- uncoded regions: a merged region is observationally a default one, whatever it was sized from -/
class LawfulMerge (R : Type) {V I : outParam Type} [Region R V I] [RegionAux R] : Prop where
  merge_fresh : ∀ rs : List R, (∀ x ∈ rs, Region.Inv x) →
      Sim (RegionAux.mergeRegions rs) (default : R) ∧ Inv (RegionAux.mergeRegions rs)

class DenseSim (R : Type) {V : outParam Type} [Region R V (Nat × Nat)] [DenseRegion R] : Prop where
  cursor_sim : ∀ a b : R, Sim a b → DenseRegion.cursor a = DenseRegion.cursor b

instance (T : Type) : LawfulAux (MirrorRegion T) where
  reserveItems_sim _ _ _ := ⟨trivial, trivial⟩
  reserveRegions_sim _ _ _ _ := ⟨trivial, trivial⟩
  clone_sim _ _ := ⟨trivial, trivial⟩
  cloneFrom_sim _ _ _ _ := ⟨trivial, trivial⟩
instance (T : Type) : LawfulMerge (MirrorRegion T) where
  merge_fresh _ _ := ⟨trivial, trivial⟩

instance (T : Type) [ElemSize T] : LawfulAux (OwnedRegion T) where
  reserveItems_sim _ _ _ := ⟨by simp [Region.Sim, RegionAux.reserveItems], trivial⟩
  reserveRegions_sim _ _ _ _ := ⟨by simp [Region.Sim, RegionAux.reserveRegions], trivial⟩
  clone_sim _ _ := ⟨by simp [Region.Sim, RegionAux.clone], trivial⟩
  cloneFrom_sim _ _ _ _ := ⟨by simp [Region.Sim, RegionAux.cloneFrom], trivial⟩
instance (T : Type) [ElemSize T] : LawfulMerge (OwnedRegion T) where
  merge_fresh _ _ := ⟨by simp [Region.Sim, RegionAux.mergeRegions, Region.default], trivial⟩
instance (T : Type) : DenseSim (OwnedRegion T) where
  cursor_sim a b h := by simp only [Region.Sim] at h; simp [DenseRegion.cursor, MVec.len, h]

instance (T : Type) [ElemSize T] : LawfulAux (VecRegion T) where
  reserveItems_sim _ _ _ := ⟨by simp [Region.Sim, RegionAux.reserveItems], trivial⟩
  reserveRegions_sim _ _ _ _ := ⟨by simp [Region.Sim, RegionAux.reserveRegions], trivial⟩
  clone_sim _ _ := ⟨by simp [Region.Sim, RegionAux.clone], trivial⟩
  cloneFrom_sim _ _ _ _ := ⟨by simp [Region.Sim, RegionAux.cloneFrom], trivial⟩
instance (T : Type) [ElemSize T] : LawfulMerge (VecRegion T) where
  merge_fresh _ _ := ⟨by simp [Region.Sim, RegionAux.mergeRegions, Region.default], trivial⟩

section Forward
variable {R V I : Type} [Region R V I] [RegionAux R] [LawfulAux R]

instance {R I : Type} [Region R (List UInt8) I] [RegionAux R] [LawfulAux R] : LawfulAux (StringRegion R) where
  reserveItems_sim r vs hi := LawfulAux.reserveItems_sim r.inner vs hi
  reserveRegions_sim r rs hi hs := LawfulAux.reserveRegions_sim r.inner (rs.map (·.inner)) hi (List.forall_mem_map.mpr hs)
  clone_sim r hi := LawfulAux.clone_sim r.inner hi
  cloneFrom_sim d s hd hs := LawfulAux.cloneFrom_sim d.inner s.inner hd hs
instance {R I : Type} [Region R (List UInt8) I] [RegionAux R] [LawfulMerge R] : LawfulMerge (StringRegion R) where
  merge_fresh rs hs := LawfulMerge.merge_fresh (rs.map (·.inner)) (List.forall_mem_map.mpr hs)
instance {R : Type} [Region R (List UInt8) (Nat × Nat)] [DenseRegion R] [DenseSim R] : DenseSim (StringRegion R) where
  cursor_sim a b h := DenseSim.cursor_sim a.inner b.inner h

instance : LawfulAux (OptionRegion R) where
  reserveItems_sim r vs hi := LawfulAux.reserveItems_sim r.inner (vs.filterMap id) hi
  reserveRegions_sim r rs hi hs := LawfulAux.reserveRegions_sim r.inner (rs.map (·.inner)) hi (List.forall_mem_map.mpr hs)
  clone_sim r hi := LawfulAux.clone_sim r.inner hi
  cloneFrom_sim d s hd hs := LawfulAux.cloneFrom_sim d.inner s.inner hd hs
instance [LawfulMerge R] : LawfulMerge (OptionRegion R) where
  merge_fresh rs hs := LawfulMerge.merge_fresh (rs.map (·.inner)) (List.forall_mem_map.mpr hs)
end Forward

/-! ### both sides / every field: `Sim` and `Inv` are conjunctions -/
section Result
variable {T VT IT E VE IE : Type} [Region T VT IT] [Region E VE IE] [RegionAux T] [RegionAux E]

instance [LawfulAux T] [LawfulAux E] : LawfulAux (ResultRegion T E) where
  reserveItems_sim r _ hi :=
    and_and_and_comm.mp ⟨LawfulAux.reserveItems_sim r.oks _ hi.1, LawfulAux.reserveItems_sim r.errs _ hi.2⟩
  reserveRegions_sim r rs hi hs := and_and_and_comm.mp
    ⟨LawfulAux.reserveRegions_sim r.oks (rs.map (·.oks)) hi.1 (List.forall_mem_map.mpr fun x hx => (hs x hx).1),
     LawfulAux.reserveRegions_sim r.errs (rs.map (·.errs)) hi.2 (List.forall_mem_map.mpr fun x hx => (hs x hx).2)⟩
  clone_sim r hi := and_and_and_comm.mp ⟨LawfulAux.clone_sim r.oks hi.1, LawfulAux.clone_sim r.errs hi.2⟩
  cloneFrom_sim d s hd hs :=
    and_and_and_comm.mp ⟨LawfulAux.cloneFrom_sim d.oks s.oks hd.1 hs.1, LawfulAux.cloneFrom_sim d.errs s.errs hd.2 hs.2⟩
instance [LawfulMerge T] [LawfulMerge E] : LawfulMerge (ResultRegion T E) where
  merge_fresh rs hs := and_and_and_comm.mp
    ⟨LawfulMerge.merge_fresh (rs.map (·.oks)) (List.forall_mem_map.mpr fun x hx => (hs x hx).1),
     LawfulMerge.merge_fresh (rs.map (·.errs)) (List.forall_mem_map.mpr fun x hx => (hs x hx).2)⟩
end Result

instance : LawfulAux TupleNil where
  reserveItems_sim _ _ _ := ⟨trivial, trivial⟩
  reserveRegions_sim _ _ _ _ := ⟨trivial, trivial⟩
  clone_sim _ _ := ⟨trivial, trivial⟩
  cloneFrom_sim _ _ _ _ := ⟨trivial, trivial⟩
instance : LawfulMerge TupleNil where
  merge_fresh _ _ := ⟨trivial, trivial⟩

section Tuple
variable {A VA IA B VB IB : Type} [Region A VA IA] [Region B VB IB] [RegionAux A] [RegionAux B]
instance [LawfulAux A] [LawfulAux B] : LawfulAux (TupleCons A B) where
  reserveItems_sim r vs hi := and_and_and_comm.mp
    ⟨LawfulAux.reserveItems_sim r.head (vs.map (·.1)) hi.1, LawfulAux.reserveItems_sim r.tail (vs.map (·.2)) hi.2⟩
  reserveRegions_sim r rs hi hs := and_and_and_comm.mp
    ⟨LawfulAux.reserveRegions_sim r.head (rs.map (·.head)) hi.1 (List.forall_mem_map.mpr fun x hx => (hs x hx).1),
     LawfulAux.reserveRegions_sim r.tail (rs.map (·.tail)) hi.2 (List.forall_mem_map.mpr fun x hx => (hs x hx).2)⟩
  clone_sim r hi := and_and_and_comm.mp ⟨LawfulAux.clone_sim r.head hi.1, LawfulAux.clone_sim r.tail hi.2⟩
  cloneFrom_sim d s hd hs :=
    and_and_and_comm.mp ⟨LawfulAux.cloneFrom_sim d.head s.head hd.1 hs.1, LawfulAux.cloneFrom_sim d.tail s.tail hd.2 hs.2⟩
instance [LawfulMerge A] [LawfulMerge B] : LawfulMerge (TupleCons A B) where
  merge_fresh rs hs := and_and_and_comm.mp
    ⟨LawfulMerge.merge_fresh (rs.map (·.head)) (List.forall_mem_map.mpr fun x hx => (hs x hx).1),
     LawfulMerge.merge_fresh (rs.map (·.tail)) (List.forall_mem_map.mpr fun x hx => (hs x hx).2)⟩
end Tuple

/-! ### wrappers that remember indices into the inner region: a `Sim`-equivalent inner region (with
the invariant) under the same remembered indices is a `Sim`-equivalent wrapper (with the invariant) -/
section Collapse
variable {R V I : Type} [Region R V I] [HasEqv V] [RegionAux R] [IndexSize I] [LawfulRegion R]

omit [RegionAux R] [IndexSize I] in
theorem CollapseSequence.sim_mk {r : CollapseSequence R I} {in' : R} (hi : Inv r) (h : Sim in' r.inner ∧ Inv in') :
    Sim (⟨in', r.last⟩ : CollapseSequence R I) r ∧ Inv (⟨in', r.last⟩ : CollapseSequence R I) :=
  ⟨⟨h.1, rfl⟩, h.2, fun li hl => (Extends.of_sim h.1 h.2 hi.1 li (hi.2 li hl)).1⟩

instance [LawfulAux R] : LawfulAux (CollapseSequence R I) where
  reserveItems_sim r _ hi := ⟨LawfulRegion.sim_refl r hi, hi⟩
  reserveRegions_sim r rs hi hs := CollapseSequence.sim_mk hi
    (LawfulAux.reserveRegions_sim r.inner (rs.map (·.inner)) hi.1 (List.forall_mem_map.mpr fun x hx => (hs x hx).1))
  clone_sim r hi := CollapseSequence.sim_mk hi (LawfulAux.clone_sim r.inner hi.1)
  cloneFrom_sim d s hd hs := CollapseSequence.sim_mk hs (LawfulAux.cloneFrom_sim d.inner s.inner hd.1 hs.1)
instance [LawfulMerge R] : LawfulMerge (CollapseSequence R I) where
  merge_fresh rs hs := CollapseSequence.sim_mk (r := Region.default) LawfulRegion.inv_default
    (LawfulMerge.merge_fresh (rs.map (·.inner)) (List.forall_mem_map.mpr fun x hx => (hs x hx).1))
end Collapse

section Slice
variable {R V I O : Type} [Region R V I] [IdxCont O I] [RegionAux R] [IdxAux O]
  [LawfulRegion R] [LawfulIdxCont O] [LawfulIdxAux O]

omit [RegionAux R] [IdxAux O] [LawfulIdxCont O] [LawfulIdxAux O] in
theorem SliceRegion.sim_mk {r : SliceRegion R O} {sl' : O} {in' : R} (hi : Inv r)
    (hit : IdxCont.iter sl' = IdxCont.iter r.slices) (hc : IdxCont.Inv sl') (h : Sim in' r.inner ∧ Inv in') :
    Sim (⟨sl', in'⟩ : SliceRegion R O) r ∧ Inv (⟨sl', in'⟩ : SliceRegion R O) :=
  ⟨⟨hit, h.1⟩, h.2, hc, fun j hj => (Extends.of_sim h.1 h.2 hi.1 j (hi.2.2 j (hit ▸ hj))).1⟩

instance [LawfulAux R] : LawfulAux (SliceRegion R O) where
  reserveItems_sim r vs hi := SliceRegion.sim_mk hi (LawfulIdxAux.reserve_iter _ _)
    (LawfulIdxAux.reserve_inv _ _ hi.2.1) (LawfulAux.reserveItems_sim r.inner vs.flatten hi.1)
  reserveRegions_sim r rs hi hs := SliceRegion.sim_mk hi (LawfulIdxAux.reserve_iter _ _)
    (LawfulIdxAux.reserve_inv _ _ hi.2.1)
    (LawfulAux.reserveRegions_sim r.inner (rs.map (·.inner)) hi.1 (List.forall_mem_map.mpr fun x hx => (hs x hx).1))
  clone_sim r hi := SliceRegion.sim_mk hi (LawfulIdxAux.clone_iter _) (LawfulIdxAux.clone_inv _ hi.2.1)
    (LawfulAux.clone_sim r.inner hi.1)
  cloneFrom_sim d s hd hs := SliceRegion.sim_mk hs (LawfulIdxAux.cloneFrom_iter _ _)
    (LawfulIdxAux.cloneFrom_inv _ _ hs.2.1) (LawfulAux.cloneFrom_sim d.inner s.inner hd.1 hs.1)

instance [LawfulMerge R] : LawfulMerge (SliceRegion R O) where
  merge_fresh rs hs := SliceRegion.sim_mk (r := Region.default) LawfulRegion.inv_default
    ((LawfulIdxAux.merge_iter _).trans (LawfulIdxCont.iter_default (C := O)).symm) (LawfulIdxAux.merge_inv _)
    (LawfulMerge.merge_fresh (rs.map (·.inner)) (List.forall_mem_map.mpr fun x hx => (hs x hx).1))

/-- the unrepaired `merge_regions` (index container not pre-sized) is *semantically* fresh too:
D8 is purely an allocation defect (C17), invisible to C10 -/
theorem SliceRegion.mergeLegacy_fresh [LawfulMerge R] (rs : List (SliceRegion R O)) (hs : ∀ x ∈ rs, Region.Inv x) :
    Sim (SliceRegion.mergeLegacy rs) (default : SliceRegion R O) :=
  ⟨rfl, (LawfulMerge.merge_fresh (rs.map (·.inner)) (List.forall_mem_map.mpr fun x hx => (hs x hx).1)).1⟩

instance : DenseSim (SliceRegion R O) where
  cursor_sim a b h := by simp [DenseRegion.cursor, h.1]
end Slice

section Stack
variable {R V I S : Type} [Region R V I] [IdxCont S I] [RegionAux R] [IdxAux S]
  [LawfulRegion R] [LawfulIdxCont S] [LawfulIdxAux S]

omit [RegionAux R] [IdxAux S] [LawfulIdxCont S] [LawfulIdxAux S] in
theorem FlatStack.sim_mk {fs : FlatStack R S} {ind' : S} {r' : R} (hi : Inv fs)
    (hit : IdxCont.iter ind' = IdxCont.iter fs.indices) (hc : IdxCont.Inv ind') (h : Sim r' fs.region ∧ Inv r') :
    Sim (⟨ind', r'⟩ : FlatStack R S) fs ∧ Inv (⟨ind', r'⟩ : FlatStack R S) :=
  SliceRegion.sim_mk (r := ⟨fs.indices, fs.region⟩) hi hit hc h

instance [LawfulAux R] : LawfulAux (FlatStack R S) where
  reserveItems_sim fs vs hi := FlatStack.sim_mk hi rfl hi.2.1 (LawfulAux.reserveItems_sim fs.region vs hi.1)
  reserveRegions_sim fs rs hi hs := FlatStack.sim_mk hi rfl hi.2.1
    (LawfulAux.reserveRegions_sim fs.region (rs.map (·.region)) hi.1 (List.forall_mem_map.mpr fun x hx => (hs x hx).1))
  clone_sim fs hi := FlatStack.sim_mk hi (LawfulIdxAux.clone_iter _) (LawfulIdxAux.clone_inv _ hi.2.1)
    (LawfulAux.clone_sim fs.region hi.1)
  cloneFrom_sim d s hd hs := FlatStack.sim_mk hs (LawfulIdxAux.cloneFrom_iter _ _)
    (LawfulIdxAux.cloneFrom_inv _ _ hs.2.1) (LawfulAux.cloneFrom_sim d.region s.region hd.1 hs.1)

/-- `merge_capacity` -/
instance [LawfulMerge R] : LawfulMerge (FlatStack R S) where
  merge_fresh rs hs := FlatStack.sim_mk (fs := Region.default) LawfulRegion.inv_default
    ((LawfulIdxAux.merge_iter _).trans (LawfulIdxCont.iter_default (C := S)).symm) (LawfulIdxAux.merge_inv _)
    (LawfulMerge.merge_fresh (rs.map (·.region)) (List.forall_mem_map.mpr fun x hx => (hs x hx).1))

theorem FlatStack.reserve_sim (fs : FlatStack R S) (n : Nat) (hi : Inv fs) :
    Sim (fs.reserve n) fs ∧ Inv (fs.reserve n) :=
  FlatStack.sim_mk hi (LawfulIdxAux.reserve_iter _ _) (LawfulIdxAux.reserve_inv _ _ hi.2.1)
    ⟨LawfulRegion.sim_refl _ hi.1, hi.1⟩

omit [RegionAux R] in
theorem FlatStack.withCapacity_sim (n : Nat) :
    Sim (FlatStack.withCapacity n : FlatStack R S) (default : FlatStack R S) ∧ Inv (FlatStack.withCapacity n : FlatStack R S) :=
  FlatStack.sim_mk (fs := Region.default) LawfulRegion.inv_default
    ((LawfulIdxAux.withCapacity_iter _).trans (LawfulIdxCont.iter_default (C := S)).symm)
    (LawfulIdxAux.withCapacity_inv _) ⟨LawfulRegion.sim_refl _ LawfulRegion.inv_default, LawfulRegion.inv_default⟩
end Stack

section Consec
variable {R V O : Type} [Region R V (Nat × Nat)] [DenseRegion R] [IdxCont O Nat] [RegionAux R] [IdxAux O]
  [LawfulRegion R] [LawfulDense R] [DenseSim R] [LawfulIdxCont O] [LawfulIdxAux O]

omit [RegionAux R] [IdxAux O] [LawfulDense R] [LawfulIdxCont O] [LawfulIdxAux O] in
theorem ConsecPairs.sim_mk {r : ConsecPairs R O} {in' : R} {ind' : O} (hi : Inv r)
    (hit : IdxCont.iter ind' = IdxCont.iter r.indices) (hc : IdxCont.Inv ind') (h : Sim in' r.inner ∧ Inv in') :
    Sim (⟨in', ind', r.last⟩ : ConsecPairs R O) r ∧ Inv (⟨in', ind', r.last⟩ : ConsecPairs R O) :=
  ⟨⟨h.1, hit, rfl⟩, h.2, hc, (DenseSim.cursor_sim in' r.inner h.1).symm ▸ ConsecPairs.last_eq_cursor hi,
    hit ▸ ConsecPairs.getLast?_indices hi,
    fun _ _ _ ha hb => (Extends.of_sim h.1 h.2 hi.1 _ (ConsecPairs.valid_pair hi ⟨hit ▸ ha, hit ▸ hb⟩)).1⟩

instance [LawfulAux R] : LawfulAux (ConsecPairs R O) where
  reserveItems_sim r vs hi := ConsecPairs.sim_mk hi rfl hi.2.1 (LawfulAux.reserveItems_sim r.inner vs hi.1)
  reserveRegions_sim r rs hi hs := ConsecPairs.sim_mk hi rfl hi.2.1
    (LawfulAux.reserveRegions_sim r.inner (rs.map (·.inner)) hi.1 (List.forall_mem_map.mpr fun x hx => (hs x hx).1))
  clone_sim r hi := ConsecPairs.sim_mk hi (LawfulIdxAux.clone_iter _) (LawfulIdxAux.clone_inv _ hi.2.1)
    (LawfulAux.clone_sim r.inner hi.1)
  cloneFrom_sim d s hd hs := ConsecPairs.sim_mk hs (LawfulIdxAux.cloneFrom_iter _ _)
    (LawfulIdxAux.cloneFrom_inv _ _ hs.2.1) (LawfulAux.cloneFrom_sim d.inner s.inner hd.1 hs.1)

instance [LawfulMerge R] : LawfulMerge (ConsecPairs R O) where
  merge_fresh rs hs :=
    have hd : Inv (Region.default : ConsecPairs R O) := LawfulRegion.inv_default
    ConsecPairs.sim_mk hd rfl hd.2.1 (LawfulMerge.merge_fresh (rs.map (·.inner)) (List.forall_mem_map.mpr fun x hx => (hs x hx).1))
end Consec

theorem colsCloneFrom_length {R V I : Type} [Region R V I] [RegionAux R] (dst src : List R) : (colsCloneFrom dst src).length = src.length := by
  simp only [colsCloneFrom, List.length_append, List.length_zipWith, List.length_take, List.length_map, List.length_drop]
  omega

theorem colsCloneFrom_getElem {R V I : Type} [Region R V I] [RegionAux R] (dst src : List R) (k : Nat) (hk : k < (colsCloneFrom dst src).length) :
    (colsCloneFrom dst src)[k] =
      if h : k < dst.length then RegionAux.cloneFrom dst[k] (src[k]'(colsCloneFrom_length dst src ▸ hk))
      else RegionAux.clone (src[k]'(colsCloneFrom_length dst src ▸ hk)) := by
  have hs : k < src.length := colsCloneFrom_length dst src ▸ hk
  simp only [colsCloneFrom]
  split
  · next h =>
    rw [List.getElem_append_left (by simp; omega)]
    simp
  · next h =>
    rw [List.getElem_append_right (by simp; omega)]
    simp only [List.length_zipWith, List.length_take, List.getElem_map, List.getElem_drop]
    congr 2
    omega

section Columns
variable {R V I O : Type} [Region R V I] [IdxCont O Nat] [RegionAux R] [IdxAux O] [ElemSize I]
  [LawfulRegion R] [LawfulIdxCont O] [LawfulIdxAux O]

omit [RegionAux R] [IdxCont O Nat] [IdxAux O] [ElemSize I] [LawfulIdxCont O] [LawfulIdxAux O] in
theorem rowValid_of_sim {cs cs' : List R} {is : List I} (h : RowValid cs is) (hi : ∀ c ∈ cs, Inv c)
    (hp : ∀ k (hk : k < cs.length), ∃ hk' : k < cs'.length, Sim cs'[k] cs[k] ∧ Inv cs'[k]) : RowValid cs' is := by
  induction is generalizing cs cs' with
  | nil => simp
  | cons i is ih =>
    cases cs with
    | nil => exact h.elim
    | cons c cs =>
      obtain ⟨hk', h0⟩ := hp 0 (by simp)
      cases cs' with
      | nil => simp at hk'
      | cons c' cs' =>
        refine ⟨(Extends.of_sim h0.1 h0.2 (hi c (by simp)) i h.1).1, ?_⟩
        refine ih h.2 (fun x hx => hi x (by simp [hx])) fun k hk => ?_
        obtain ⟨hk', hs⟩ := hp (k + 1) (by simpa using hk)
        exact ⟨by simpa using hk', by simpa using hs⟩

omit [RegionAux R] [IdxAux O] [ElemSize I] [LawfulIdxAux O] in
theorem ColumnsRegion.sim_mk {r : ColumnsRegion R I O} {ind' : ConsecPairs (OwnedRegion I) O} {cols' : List R}
    (hi : Inv r) (hind : Sim ind' r.indices ∧ Inv ind') (hl : r.cols.length ≤ cols'.length)
    (hp : ∀ k (hk : k < cols'.length), Sim cols'[k] (r.cols.getD k Region.default) ∧ Inv cols'[k]) :
    Sim (⟨ind', cols'⟩ : ColumnsRegion R I O) r ∧ Inv (⟨ind', cols'⟩ : ColumnsRegion R I O) := by
  have hsim : ColsSim cols' r.cols := by
    intro k
    rw [List.getD_eq_getElem?_getD (l := cols')]
    rcases Nat.lt_or_ge k cols'.length with h | h
    · rw [List.getElem?_eq_getElem h]
      exact (hp k h).1
    · rw [List.getElem?_eq_none h, List.getD_eq_getElem?_getD, List.getElem?_eq_none (by omega)]
      exact LawfulRegion.sim_refl _ LawfulRegion.inv_default
  have hc : ∀ c ∈ cols', Inv c := by
    intro c hc
    obtain ⟨k, hk, rfl⟩ := List.getElem_of_mem hc
    exact (hp k hk).2
  refine ⟨⟨hind.1, hsim⟩, hind.2, hc, fun k is hv hx => ?_⟩
  obtain ⟨h1, h2⟩ := LawfulRegion.sim_index ind' r.indices k hind.1 hind.2 hi.1
  refine rowValid_of_sim (hi.2.2 k is (h1.mp hv) ((h2 hv).symm.trans hx)) hi.2.1 fun j hj => ⟨Nat.lt_of_lt_of_le hj hl, ?_⟩
  have := hp j (Nat.lt_of_lt_of_le hj hl)
  rwa [List.getD_eq_getElem?_getD, List.getElem?_eq_getElem hj] at this

omit [RegionAux R] [LawfulRegion R] [LawfulIdxCont O] [LawfulIdxAux O] [IdxAux O] [ElemSize I] in
theorem inv_of_mem_colsAt {rs : List (ColumnsRegion R I O)} (hs : ∀ x ∈ rs, Region.Inv x) (k : Nat) :
    ∀ x ∈ rs.filterMap fun (x : ColumnsRegion R I O) => x.cols[k]?, Region.Inv x := by
  intro x hx
  obtain ⟨y, hy, hyk⟩ := List.mem_filterMap.mp hx
  exact (hs y hy).2.1 x (List.mem_of_getElem? hyk)

omit [LawfulRegion R] [LawfulIdxCont O] [LawfulIdxAux O] in
theorem ColumnsRegion.reserveRegions_eq (r : ColumnsRegion R I O) (rs : List (ColumnsRegion R I O)) :
    RegionAux.reserveRegions r rs =
      let cs := padCols r.cols ((rs.map fun x => x.cols.length).foldl max 0)
      ⟨r.indices, (List.range cs.length).zipWith
        (fun k c => RegionAux.reserveRegions c (rs.filterMap fun x => x.cols[k]?)) cs⟩ := rfl

instance instLawfulAuxColumnsRegionListNat [LawfulAux R] : LawfulAux (ColumnsRegion R I O) where
  reserveItems_sim r _ hi := ⟨LawfulRegion.sim_refl r hi, hi⟩
  reserveRegions_sim r rs hi hs := by
    rw [ColumnsRegion.reserveRegions_eq]
    generalize (rs.map fun x => x.cols.length).foldl max 0 = n
    refine ColumnsRegion.sim_mk hi ⟨LawfulRegion.sim_refl _ hi.1, hi.1⟩ ?_ fun k hk => ?_
    · rw [List.length_zipWith, List.length_range, Nat.min_self]
      exact length_le_padCols r.cols n
    · have hk' : k < (padCols r.cols n).length := by simpa using hk
      rw [List.getElem_zipWith, List.getElem_range, ← padCols_getD r.cols n k, List.getD_eq_getElem?_getD,
        List.getElem?_eq_getElem hk']
      exact LawfulAux.reserveRegions_sim _ _ (padCols_inv r.cols n hi.2.1 _ (List.getElem_mem hk'))
        (inv_of_mem_colsAt hs k)
  clone_sim r hi := by
    refine ColumnsRegion.sim_mk hi (LawfulAux.clone_sim r.indices hi.1) (by simp) fun k hk => ?_
    have hk' : k < r.cols.length := by simpa using hk
    rw [List.getElem_map, List.getD_eq_getElem?_getD, List.getElem?_eq_getElem hk']
    exact LawfulAux.clone_sim _ (hi.2.1 _ (List.getElem_mem hk'))
  cloneFrom_sim d s hd hs := by
    refine ColumnsRegion.sim_mk hs (LawfulAux.cloneFrom_sim d.indices s.indices hd.1 hs.1)
      (Nat.le_of_eq (colsCloneFrom_length _ _).symm) fun k hk => ?_
    have hk' : k < s.cols.length := colsCloneFrom_length d.cols s.cols ▸ hk
    rw [List.getD_eq_getElem?_getD, List.getElem?_eq_getElem hk', colsCloneFrom_getElem]
    split
    · next hkd => exact LawfulAux.cloneFrom_sim _ _ (hd.2.1 _ (List.getElem_mem hkd)) (hs.2.1 _ (List.getElem_mem hk'))
    · exact LawfulAux.clone_sim _ (hs.2.1 _ (List.getElem_mem hk'))

instance [LawfulMerge R] : LawfulMerge (ColumnsRegion R I O) where
  merge_fresh rs hs := by
    refine ColumnsRegion.sim_mk (r := Region.default) LawfulRegion.inv_default
      (LawfulMerge.merge_fresh (rs.map (·.indices)) (List.forall_mem_map.mpr fun x hx => (hs x hx).1))
      (Nat.zero_le _) fun k hk => ?_
    rw [List.getElem_map]
    exact LawfulMerge.merge_fresh _ (inv_of_mem_colsAt hs _)
end Columns

end FC
