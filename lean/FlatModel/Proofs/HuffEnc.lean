import FlatModel.Proofs.HuffBits
/-! The byte store as a bit string, and the `Encoder` / `push_symbols` refinement (C06). -/
namespace FC.Huff

def Packs (bytes : List Nat) (bs : List Bool) : Prop :=
  (∀ b ∈ bytes, b < 256) ∧ bytes.length = (bs.length + 7) / 8 ∧
    allBits bytes = bs ++ List.replicate (8 * bytes.length - bs.length) false

def codeLen (c : Code) (s : Nat) : Nat := ((c.lookup s).map (·.1)).getD 0

@[simp] theorem allBits_nil : allBits [] = [] := rfl
@[simp] theorem allBits_cons (b : Nat) (bs : List Nat) : allBits (b :: bs) = bitsOfCode 8 b ++ allBits bs := rfl
theorem allBits_append (a b : List Nat) : allBits (a ++ b) = allBits a ++ allBits b := List.flatMap_append
@[simp] theorem length_allBits (bytes : List Nat) : (allBits bytes).length = 8 * bytes.length := by
  induction bytes with
  | nil => rfl
  | cons b bs ih => simp [ih]; omega

theorem length_bitsOf {bytes : List Nat} {n : Nat} (h : n ≤ 8 * bytes.length) : (bitsOf bytes n).length = n := by
  simp [bitsOf]; omega

theorem eq_dropLast_append_getLast! (l : List Nat) (h : l ≠ []) : l = l.dropLast ++ [l.getLast!] := by
  rcases List.eq_nil_or_concat l with h' | ⟨a, b, rfl⟩
  · exact absurd h' h
  · simp

theorem allBits_partial {bytes : List Nat} {bits : Nat} (hlen : bytes.length = (bits + 7) / 8) (hk : bits % 8 ≠ 0) :
    (allBits bytes).take bits =
      allBits bytes.dropLast ++ bitsOfCode (bits % 8) (bytes.getLast! / 2 ^ (8 - bits % 8)) ∧
    (allBits bytes).drop bits = bitsOfCode (8 - bits % 8) bytes.getLast! := by
  have hne : bytes ≠ [] := by intro h; subst h; simp at hlen; omega
  have hsplit := eq_dropLast_append_getLast! bytes hne
  generalize bytes.getLast! = last at hsplit ⊢
  generalize bytes.dropLast = init at hsplit ⊢
  subst hsplit
  simp only [List.length_append, List.length_singleton] at hlen
  rw [allBits_append]
  simp only [allBits_cons, allBits_nil, List.append_nil]
  have hk8 : bits - 8 * init.length = bits % 8 := by omega
  constructor
  · rw [List.take_append, List.take_of_length_le (by simp; omega), length_allBits, hk8, bitsOfCode_take (by omega)]
  · rw [List.drop_append, List.drop_of_length_le (by simp; omega), List.nil_append, length_allBits, hk8,
      bitsOfCode_drop (by omega)]

theorem Packs.nil : Packs [] [] := ⟨by simp, rfl, rfl⟩

theorem Packs.single {b : Nat} (h : b < 256) : Packs [b] (bitsOfCode 8 b) := ⟨by simpa using h, by simp, by simp⟩

theorem Packs.append {a b : List Nat} {as bs : List Bool} (ha : Packs a as) (h8 : as.length % 8 = 0)
    (hb : Packs b bs) : Packs (a ++ b) (as ++ bs) := by
  obtain ⟨ha1, ha2, ha3⟩ := ha
  obtain ⟨hb1, hb2, hb3⟩ := hb
  have e1 : 8 * a.length - as.length = 0 := by omega
  rw [e1] at ha3
  simp only [List.replicate_zero, List.append_nil] at ha3
  refine ⟨List.forall_mem_append.2 ⟨ha1, hb1⟩, ?_, ?_⟩
  · simp only [List.length_append]; omega
  · rw [allBits_append, ha3, hb3, List.append_assoc]
    congr 2
    simp only [List.length_append]; congr 1; omega

theorem Packs.cons {b : Nat} {extra : List Nat} {bs : List Bool} (hb : b < 256) (h : Packs extra bs) :
    Packs (b :: extra) (bitsOfCode 8 b ++ bs) :=
  Packs.append (Packs.single hb) (by simp) h

/-- shipping the top byte of at least 8 pending bits -/
theorem Packs.cons_top {p b : Nat} {extra : List Nat} {ws : List Bool} (h8 : 8 ≤ b) (hp : p < 2 ^ b)
    (h : Packs extra (bitsOfCode (b - 8) (p % 2 ^ (b - 8)) ++ ws)) :
    Packs (p / 2 ^ (b - 8) % 256 :: extra) (bitsOfCode b p ++ ws) := by
  have hbyte : p / 2 ^ (b - 8) < 256 := shr_lt hp h8
  rw [Nat.mod_eq_of_lt hbyte]
  have := Packs.cons hbyte h
  rwa [bitsOfCode_mod _ (Nat.le_refl _), ← List.append_assoc, ← bitsOfCode_add, show 8 + (b - 8) = b by omega] at this

/-- the final fractional byte of the encoder, left-aligned -/
theorem Packs.last {p b : Nat} (h0 : 0 < b) (h8 : b < 8) (hp : p < 2 ^ b) :
    Packs [p * 2 ^ (8 - b) % 256] (bitsOfCode b p) := by
  have hlt : p * 2 ^ (8 - b) < 256 := shl_lt hp (by omega)
  rw [Nat.mod_eq_of_lt hlt]
  refine ⟨by simpa using hlt, by simp; omega, ?_⟩
  have := bitsOfCode_mul_add b (8 - b) p 0 (Nat.two_pow_pos _)
  rw [show b + (8 - b) = 8 by omega, Nat.add_zero, bitsOfCode_zero_code] at this
  simp [this]

theorem Packs.bitsOf {bytes : List Nat} {bs : List Bool} (h : Packs bytes bs) : bitsOf bytes bs.length = bs := by
  rw [FC.Huff.bitsOf, h.2.2, List.take_left' rfl]

theorem Packs.length_le {bytes : List Nat} {bs : List Bool} (h : Packs bytes bs) : bs.length ≤ 8 * bytes.length := by
  have := h.2.1; omega

theorem Packs.wf {bytes : List Nat} {bs : List Bool} (h : Packs bytes bs) : WFStore bytes bs.length := by
  obtain ⟨h1, h2, h3⟩ := h
  refine ⟨h2, h1, fun hk => ?_⟩
  -- compare the last `8 - k` bits
  have e := congrArg (List.drop bs.length) h3
  rw [(allBits_partial h2 hk).2, List.drop_left' rfl] at e
  have e2 := congrArg ofBits e
  rwa [ofBits_bitsOfCode, ofBits_replicate_false] at e2

theorem WFStore.length_eq {bytes : List Nat} {bits : Nat} (h : WFStore bytes bits) : bytes.length = (bits + 7) / 8 := h.1

theorem WFStore.packs {bytes : List Nat} {bits : Nat} (h : WFStore bytes bits) :
    Packs bytes (bitsOf bytes bits) ∧ (bitsOf bytes bits).length = bits := by
  obtain ⟨h1, h2, h3⟩ := h
  have hlen : (bitsOf bytes bits).length = bits := length_bitsOf (by omega)
  refine ⟨⟨h2, by rw [hlen]; exact h1, ?_⟩, hlen⟩
  rw [hlen]
  by_cases hk : bits % 8 = 0
  · have : 8 * bytes.length - bits = 0 := by omega
    rw [this, bitsOf, List.take_of_length_le (by simp; omega)]; simp
  · have hd := (allBits_partial h1 hk).2
    rw [← bitsOfCode_mod (k := 8 - bits % 8) _ (Nat.le_refl _), h3 hk, bitsOfCode_zero_code] at hd
    conv => lhs; rw [← List.take_append_drop bits (allBits bytes), hd]
    rw [bitsOf]; congr 2; omega

/-- the model calls `flush 16`: the encoder keeps `b ≤ 64` pending bits (`encodeLoop_spec`), and `64 < 8 * 16` -/
theorem flush_spec (fuel p b : Nat) (out : List Nat) (n : Nat) (hp : p < 2 ^ b) (hb : b < 8 * fuel) :
    ∃ extra, encodeLoop.flush fuel p b out n = (out ++ extra, n + b) ∧ Packs extra (bitsOfCode b p) := by
  induction fuel generalizing p b out n with
  | zero => omega
  | succ fuel ih =>
    unfold encodeLoop.flush
    by_cases h8 : b ≥ 8
    · simp only [h8, ↓reduceIte]
      obtain ⟨extra, he, hpk⟩ := ih (p % 2 ^ (b - 8)) (b - 8) (out ++ [p / 2 ^ (b - 8) % 256]) (n + 8)
        (Nat.mod_lt _ (Nat.two_pow_pos _)) (by omega)
      refine ⟨p / 2 ^ (b - 8) % 256 :: extra, ?_, ?_⟩
      · rw [he]; simp; omega
      · simpa using Packs.cons_top (ws := []) h8 hp (by simpa using hpk)
    · simp only [h8, ↓reduceIte]
      by_cases h0 : b > 0
      · simp only [h0, ↓reduceIte]
        exact ⟨[p * 2 ^ (8 - b) % 256], rfl, Packs.last h0 (by omega) hp⟩
      · simp only [h0, ↓reduceIte]
        have : b = 0 := by omega
        subst this
        exact ⟨[], by simp, Packs.nil⟩

/-- the `u64` accumulator never truncates: fewer than 8 pending bits plus one code of at most 57 bits -/
theorem pending_fits {p b l code : Nat} (hp : p < 2 ^ b) (hb : b < 8) (hl : l ≤ 57) (hc : code < 2 ^ l) :
    (p * 2 ^ l + code) % 2 ^ 64 = p * 2 ^ l + code ∧ p * 2 ^ l + code < 2 ^ (b + l) := by
  have hlt := shl_add_lt hp hc
  exact ⟨Nat.mod_eq_of_lt (Nat.lt_of_lt_of_le hlt (Nat.pow_le_pow_right (by omega) (by omega))), hlt⟩

def EncOKOn (c : Code) (syms : List Nat) : Prop :=
  ∀ s ∈ syms, ∀ l code, c.lookup s = some (l, code) → l ≤ 57 ∧ code < 2 ^ l

theorem EncOK.on {c : Code} (h : EncOK c) (syms : List Nat) : EncOKOn c syms := fun s _ l code hl => h s l code hl

theorem Code.mem_of_lookup {c : Code} {s l code : Nat} (h : c.lookup s = some (l, code)) : (s, l, code) ∈ c.encode := by
  simp only [Code.lookup, Option.map_eq_some_iff] at h
  obtain ⟨⟨s0, e⟩, he, rfl⟩ := h
  have hs : s0 = s := by simpa using List.find?_some he
  exact hs ▸ List.mem_of_find?_eq_some he

theorem encOK_of_forall (c : Code) (h : ∀ x ∈ c.encode, x.2.1 ≤ 57 ∧ x.2.2 < 2 ^ x.2.1) : EncOK c :=
  fun _ _ _ hl => h _ (Code.mem_of_lookup hl)

theorem encodeLoop_spec (c : Code) (syms : List Nat) (p b : Nat) (out : List Nat) (n : Nat)
    (ws : List Bool) (hc : EncOKOn c syms) (hw : encodeBits c syms = some ws) (hp : p < 2 ^ b) (hb : b ≤ 64) :
    ∃ extra, encodeLoop c syms p b out n = some (out ++ extra, n + (b + ws.length)) ∧
      Packs extra (bitsOfCode b p ++ ws) := by
  fun_induction encodeLoop c syms p b out n generalizing ws with
  | case1 p b out n =>
    simp only [encodeBits, Option.some.injEq] at hw
    subst hw
    obtain ⟨extra, he, hpk⟩ := flush_spec 16 p b out n hp (by omega)
    exact ⟨extra, by rw [he]; simp, by simpa using hpk⟩
  | case2 s rest p b out n h8 byte ih =>
    obtain ⟨extra, he, hpk⟩ := ih ws hc hw (Nat.mod_lt _ (Nat.two_pow_pos _)) (by omega)
    refine ⟨byte :: extra, ?_, Packs.cons_top h8 hp hpk⟩
    rw [he]; simp; omega
  | case3 s rest p b out n h8 hl =>
    obtain ⟨_, _, _, hl', -, -⟩ := encodeBits_cons_eq_some.1 hw
    rw [hl] at hl'
    cases hl'
  | case4 s rest p b out n h8 l code hl ih =>
    obtain ⟨_, _, wr, hl', hr, rfl⟩ := encodeBits_cons_eq_some.1 hw
    rw [hl] at hl'
    cases hl'
    obtain ⟨hl57, hcode⟩ := hc s List.mem_cons_self l code hl
    obtain ⟨hmod, hlt⟩ := pending_fits hp (by omega) hl57 hcode
    rw [hmod] at ih ⊢
    obtain ⟨extra, he, hpk⟩ := ih wr (fun s hs => hc s (List.mem_cons_of_mem _ hs)) hr hlt (by omega)
    refine ⟨extra, ?_, ?_⟩
    · rw [he]; simp; omega
    · rwa [bitsOfCode_mul_add _ _ _ _ hcode, List.append_assoc] at hpk

theorem Packs.whole {l : List Nat} (h : ∀ b ∈ l, b < 256) : Packs l (allBits l) :=
  ⟨h, by simp; omega, by simp⟩

theorem encodeBits_length (c : Code) (syms : List Nat) (ws : List Bool) (h : encodeBits c syms = some ws) :
    ws.length = (syms.map (codeLen c)).sum := by
  induction syms generalizing ws with
  | nil => simp [encodeBits] at h; subst h; rfl
  | cons s r ih =>
    obtain ⟨l, code, wr, hl, hr, rfl⟩ := encodeBits_cons_eq_some.1 h
    simp [codeLen, hl, ih wr hr]

theorem encodeBits_isSome_iff (c : Code) (syms : List Nat) :
    (encodeBits c syms).isSome ↔ ∀ s ∈ syms, (c.lookup s).isSome := by
  induction syms with
  | nil => simp [encodeBits]
  | cons a r ih =>
    simp only [encodeBits, codeOf, List.mem_cons, forall_eq_or_imp, ← ih]
    cases c.lookup a <;> cases encodeBits c r <;> simp

theorem encodeBits_none_of_unknown (c : Code) (syms : List Nat) (s : Nat) (hs : s ∈ syms) (hl : c.lookup s = none) :
    encodeBits c syms = none := by
  rw [← Option.not_isSome_iff_eq_none, encodeBits_isSome_iff]
  exact fun h => by simpa [hl] using h s hs

theorem encodeLoop_none (c : Code) (syms : List Nat) (p b : Nat) (out : List Nat) (n : Nat)
    (hw : encodeBits c syms = none) : encodeLoop c syms p b out n = none := by
  fun_induction encodeLoop c syms p b out n with
  | case1 p b out n => simp [encodeBits] at hw
  | case2 s rest p b out n h8 byte ih => exact ih hw
  | case3 s rest p b out n h8 hl => rfl
  | case4 s rest p b out n h8 l code hl ih =>
    exact ih ((encodeBits_cons_eq_none.1 hw).resolve_left (by simp [hl]))

/-- how `push_symbols` resumes: a well-formed store is whole bytes followed by fewer than 8 pending bits, which are
the high bits of the partial last byte -/
theorem WFStore.split {bytes : List Nat} {bits : Nat} (h : WFStore bytes bits) :
    ∃ init p, (∀ b ∈ init, b < 256) ∧ p < 2 ^ (bits % 8) ∧
      bitsOf bytes bits = allBits init ++ bitsOfCode (bits % 8) p ∧
      (if bits % 8 = 0 then (bytes, (0, 0)) else (bytes.dropLast, (bytes.getLast! / 2 ^ (8 - bits % 8), bits % 8)))
        = (init, (p, bits % 8)) := by
  obtain ⟨h1, h2, -⟩ := h
  by_cases hk : bits % 8 = 0
  · refine ⟨bytes, 0, h2, Nat.two_pow_pos _, ?_, by rw [if_pos hk, hk]⟩
    rw [hk, bitsOfCode_zero, List.append_nil, bitsOf, List.take_of_length_le (by simp; omega)]
  · have hne : bytes ≠ [] := by intro h; subst h; simp at h1; omega
    have hsplit := eq_dropLast_append_getLast! bytes hne
    refine ⟨bytes.dropLast, bytes.getLast! / 2 ^ (8 - bits % 8), fun b hb => h2 b ?_,
      shr_lt (b := 8) (h2 _ ?_) (by omega), ?_, by rw [if_neg hk]⟩
    · rw [hsplit]; exact List.mem_append_left _ hb
    · rw [hsplit]; simp
    · exact (allBits_partial h1 hk).1

theorem push_appends (c : Code) (bytes : List Nat) (bits : Nat) (syms : List Nat) (ws : List Bool)
    (hc : EncOKOn c syms) (hwf : WFStore bytes bits) (hw : encodeBits c syms = some ws) :
    ∃ bytes', pushSymbols c bytes bits syms = some (bytes', bits + ws.length, (bits, bits + ws.length)) ∧
      WFStore bytes' (bits + ws.length) ∧
      bitsOf bytes' (bits + ws.length) = bitsOf bytes bits ++ ws := by
  obtain ⟨init, p, hinit, hp, hbits, hprog⟩ := hwf.split
  have hlen : (bitsOf bytes bits ++ ws).length = bits + ws.length := by
    rw [List.length_append, length_bitsOf (by have := hwf.length_eq; omega)]
  obtain ⟨extra, he, hpe⟩ := encodeLoop_spec c syms p (bits % 8) [] 0 ws hc hw hp (by omega)
  have hpk : Packs (init ++ extra) (bitsOf bytes bits ++ ws) := by
    rw [hbits, List.append_assoc]
    exact Packs.append (Packs.whole hinit) (by simp) hpe
  refine ⟨init ++ extra, ?_, ?_⟩
  · simp only [pushSymbols, hprog, he]
    simp only [List.nil_append, Nat.zero_add, Option.some.injEq, Prod.mk.injEq, true_and]
    omega
  · have a := hpk.wf
    have b := hpk.bitsOf
    rw [hlen] at a b
    exact ⟨a, b⟩

theorem pushSymbols_eq_some {c : Code} {bytes bytes' : List Nat} {bits bits' : Nat} {syms : List Nat} {i : Nat × Nat}
    (hc : EncOKOn c syms) (hwf : WFStore bytes bits) (hp : pushSymbols c bytes bits syms = some (bytes', bits', i)) :
    ∃ ws, encodeBits c syms = some ws ∧ bits' = bits + ws.length ∧ i = (bits, bits + ws.length) ∧
      WFStore bytes' bits' ∧ bitsOf bytes' bits' = bitsOf bytes bits ++ ws := by
  cases hw : encodeBits c syms with
  | none => simp [pushSymbols, encodeLoop_none c syms _ _ _ _ hw] at hp
  | some ws =>
    obtain ⟨b', he, hwf', hb⟩ := push_appends c bytes bits syms ws hc hwf hw
    cases he.symm.trans hp
    exact ⟨ws, rfl, rfl, rfl, hwf', hb⟩

/-- the bits already stored are unchanged by a push
(the shared partial byte is re-emitted identically) -/
theorem frame_bits (c : Code) (bytes : List Nat) (bits : Nat) (syms : List Nat) (hc : EncOKOn c syms)
    (bytes' : List Nat) (bits' : Nat) (i : Nat × Nat) (hwf : WFStore bytes bits)
    (hp : pushSymbols c bytes bits syms = some (bytes', bits', i)) :
    bitsOf bytes' bits = bitsOf bytes bits ∧ bits ≤ bits' := by
  obtain ⟨ws, -, rfl, -, -, hb⟩ := pushSymbols_eq_some hc hwf hp
  refine ⟨?_, by omega⟩
  have := congrArg (List.take bits) hb
  rw [bitsOf, List.take_take, Nat.min_eq_left (by omega)] at this
  rw [bitsOf, this, List.take_left' (hwf.packs.2)]

theorem push_refuses_unknown (c : Code) (bytes : List Nat) (bits : Nat) (syms : List Nat) (s : Nat)
    (hs : s ∈ syms) (hl : c.lookup s = none) : pushSymbols c bytes bits syms = none := by
  simp only [pushSymbols, encodeLoop_none c syms _ _ _ _ (encodeBits_none_of_unknown c syms s hs hl)]

theorem push_nil (c : Code) (bytes : List Nat) (bits : Nat) (hwf : WFStore bytes bits) :
    ∃ bytes', pushSymbols c bytes bits [] = some (bytes', bits, (bits, bits)) ∧
      WFStore bytes' bits ∧ bitsOf bytes' bits = bitsOf bytes bits := by
  simpa using push_appends c bytes bits [] [] (fun s hs => by cases hs) hwf rfl

end FC.Huff
