import Mathlib.Data.List.Forall2
/-! Facts about `List.Forall₂`, the pointwise lifting of a relation to lists of equal length, that
Mathlib does not have. `vle`, `vstep` (`Proofs/Caps.lean`, `CapsGrowth.lean`) are instances of it. -/
namespace List
variable {α β γ δ ε ζ : Type}

theorem Forall₂.trans' {R : α → β → Prop} {S : β → γ → Prop} {T : α → γ → Prop} {l₁ l₂ l₃}
    (h₁ : Forall₂ R l₁ l₂) (h₂ : Forall₂ S l₂ l₃) (H : ∀ a b c, R a b → S b c → T a c) : Forall₂ T l₁ l₃ := by
  induction h₁ generalizing l₃ with
  | nil =>
    cases h₂
    exact .nil
  | cons hab _ ih =>
    cases h₂ with
    | cons hbc h₂ => exact .cons (H _ _ _ hab hbc) (ih h₂)

theorem forall₂_append_iff {R : α → β → Prop} {a c : List α} {b d : List β} (h : a.length = b.length) :
    Forall₂ R (a ++ c) (b ++ d) ↔ Forall₂ R a b ∧ Forall₂ R c d := by
  refine ⟨fun H => ?_, fun H => rel_append H.1 H.2⟩
  have h1 := forall₂_take a.length H
  have h2 := forall₂_drop a.length H
  rw [take_left' rfl, take_left' h.symm] at h1
  rw [drop_left' rfl, drop_left' h.symm] at h2
  exact ⟨h1, h2⟩

theorem Forall₂.zipWith' {R : α → β → Prop} {S : γ → δ → Prop} {T : ε → ζ → Prop}
    {f : α → γ → ε} {g : β → δ → ζ} {l₁ l₂ m₁ m₂} (h₁ : Forall₂ R l₁ l₂) (h₂ : Forall₂ S m₁ m₂)
    (H : ∀ a b c d, R a b → S c d → T (f a c) (g b d)) : Forall₂ T (zipWith f l₁ m₁) (zipWith g l₂ m₂) := by
  induction h₁ generalizing m₁ m₂ with
  | nil => simp
  | cons hab _ ih =>
    cases h₂ with
    | nil => simp
    | cons hcd h₂ => exact .cons (H _ _ _ _ hab hcd) (ih h₂)

theorem forall₂_zipWith_left {R : α → γ → Prop} {f : α → β → γ} (hf : ∀ a b, R a (f a b)) {as : List α} {bs : List β}
    (hl : as.length = bs.length) : Forall₂ R as (zipWith f as bs) :=
  forall₂_iff_get.mpr ⟨by simp [hl], fun k _ _ => by simpa using hf _ _⟩

theorem forall₂_zipWith_right {R : β → γ → Prop} {f : α → β → γ} (hf : ∀ a b, R b (f a b)) {as : List α} {bs : List β}
    (hl : as.length = bs.length) : Forall₂ R bs (zipWith f as bs) :=
  forall₂_iff_get.mpr ⟨by simp [hl], fun k _ _ => by simpa using hf _ _⟩

theorem forall₂_mem_right {R : α → β → Prop} {l₁ : List α} {l₂ : List β} (h : Forall₂ R l₁ l₂) :
    ∀ y ∈ l₂, ∃ x ∈ l₁, R x y := by
  induction h with
  | nil => intro y hy; simp at hy
  | cons hab _ ih =>
    intro y hy
    rcases List.mem_cons.mp hy with rfl | hy
    · exact ⟨_, by simp, hab⟩
    · obtain ⟨x, hx, hr⟩ := ih y hy
      exact ⟨x, by simp [hx], hr⟩

theorem Forall₂.getD' {R : α → β → Prop} {l₁ l₂} (h : Forall₂ R l₁ l₂) {x y} (hxy : R x y) (j : Nat) :
    R (l₁.getD j x) (l₂.getD j y) := by
  induction h generalizing j with
  | nil => simpa using hxy
  | cons hab _ ih =>
    cases j with
    | zero => simpa using hab
    | succ j => simpa using ih j

end List
