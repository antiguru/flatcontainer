import FlatModel.Model.Huffman
/-! The statistics a Huffman container accumulates (`bump`, `mergeStats`) stay `Valid`: keys strictly
ascending, counts positive. This is the precondition `create_from` needs (C06), so it holds for every
container reachable from the default one. -/
namespace FC.Huff

/-- `counts` as `create_from` receives it from a `BTreeMap` whose counts are positive. (Where `FC.Huff` and `Region` are
both open there are two `Valid`s; this one is then written `Huff.Valid`.) -/
structure Valid (counts : List (Nat × Int)) : Prop where
  asc : counts.Pairwise fun a b => a.1 < b.1
  pos : ∀ p ∈ counts, 0 < p.2

theorem mergeStats_add_nil (s : Nat) (c : Int) : mergeStats.add s c [] = [(s, c)] := by
  rw [mergeStats.add]

theorem mergeStats_add_cons (s : Nat) (c : Int) (t : Nat) (d : Int) (rest : List (Nat × Int)) :
    mergeStats.add s c ((t, d) :: rest) =
      if s < t then (s, c) :: (t, d) :: rest else if s = t then (t, d + c) :: rest
      else (t, d) :: mergeStats.add s c rest := by
  rw [mergeStats.add]

theorem bump_eq_add (stats : List (Nat × Int)) (s : Nat) : bump stats s = mergeStats.add s 1 stats := by
  induction stats with
  | nil => rw [bump, mergeStats_add_nil]
  | cons p rest ih =>
    obtain ⟨t, d⟩ := p
    rw [bump, mergeStats_add_cons, ih]

theorem valid_cons {t : Nat} {d : Int} {l : List (Nat × Int)} :
    Valid ((t, d) :: l) ↔ 0 < d ∧ (∀ p ∈ l, t < p.1) ∧ Valid l := by
  constructor
  · rintro ⟨hasc, hpos⟩
    rw [List.pairwise_cons] at hasc
    exact ⟨hpos _ List.mem_cons_self, hasc.1, hasc.2, fun p hp => hpos p (List.mem_cons_of_mem _ hp)⟩
  · rintro ⟨hd, hlt, hasc, hpos⟩
    exact ⟨List.pairwise_cons.2 ⟨hlt, hasc⟩, List.forall_mem_cons.2 ⟨hd, hpos⟩⟩

theorem add_lt_keys {t s : Nat} (c : Int) {l : List (Nat × Int)} (hl : ∀ p ∈ l, t < p.1) (hs : t < s) :
    ∀ p ∈ mergeStats.add s c l, t < p.1 := by
  induction l with
  | nil => rw [mergeStats_add_nil]; exact List.forall_mem_singleton.2 hs
  | cons q rest ih =>
    obtain ⟨u, d⟩ := q
    obtain ⟨hu, hrest⟩ := List.forall_mem_cons.1 hl
    rw [mergeStats_add_cons]
    split
    · exact List.forall_mem_cons.2 ⟨hs, hl⟩
    · split
      · exact List.forall_mem_cons.2 ⟨hu, hrest⟩
      · exact List.forall_mem_cons.2 ⟨hu, ih hrest⟩

theorem add_valid (s : Nat) (c : Int) (hc : 0 < c) (l : List (Nat × Int)) (hv : Valid l) :
    Valid (mergeStats.add s c l) := by
  induction l with
  | nil =>
    rw [mergeStats_add_nil]
    exact valid_cons.2 ⟨hc, fun _ h => (nomatch h), hv⟩
  | cons q rest ih =>
    obtain ⟨t, d⟩ := q
    obtain ⟨hd, hlt, hrest⟩ := valid_cons.1 hv
    rw [mergeStats_add_cons]
    split
    · rename_i hst
      exact valid_cons.2 ⟨hc, List.forall_mem_cons.2 ⟨hst, fun p hp => Nat.lt_trans hst (hlt p hp)⟩, hv⟩
    · split
      · exact valid_cons.2 ⟨by omega, hlt, hrest⟩
      · exact valid_cons.2 ⟨hd, add_lt_keys c hlt (by omega), ih hrest⟩

theorem valid_nil : Valid [] := ⟨List.Pairwise.nil, fun _ h => (by cases h)⟩

theorem bump_valid (stats : List (Nat × Int)) (s : Nat) (hv : Valid stats) : Valid (bump stats s) := by
  rw [bump_eq_add]; exact add_valid s 1 (by decide) stats hv

theorem foldl_bump_valid (item : List Nat) (stats : List (Nat × Int)) (hv : Valid stats) :
    Valid (item.foldl bump stats) := by
  induction item generalizing stats with
  | nil => exact hv
  | cons s rest ih => exact ih _ (bump_valid stats s hv)

theorem mergeStats_valid (a b : List (Nat × Int)) (ha : Valid a) (hb : ∀ p ∈ b, 0 < p.2) :
    Valid (mergeStats a b) := by
  unfold mergeStats
  induction b generalizing a with
  | nil => exact ha
  | cons p rest ih =>
    obtain ⟨s, c⟩ := p
    exact ih _ (add_valid s c (hb (s, c) (by simp)) a ha) (fun q hq => hb q (List.mem_cons_of_mem _ hq))

/-- the statistics `merge_regions` hands to `create_from` -/
theorem merged_stats_valid (srcs : List Container) (h : ∀ s ∈ srcs, Valid s.stats) :
    Valid (srcs.foldl (fun acc h => mergeStats acc h.stats) []) := by
  have ha := valid_nil
  generalize ([] : List (Nat × Int)) = acc at ha ⊢
  induction srcs generalizing acc with
  | nil => exact ha
  | cons s rest ih =>
    exact ih (fun q hq => h q (List.mem_cons_of_mem _ hq)) _ (mergeStats_valid acc s.stats ha (h s (by simp)).pos)

inductive Built : Container → Prop
  | default : Built Container.default
  | push {h h' : Container} {item : List Nat} {i : Nat × Nat} :
      Built h → Container.push h item = some (h', i) → Built h'
  | clear {h : Container} : Built h → Built (Container.clear h)
  | merge {srcs : List Container} : (∀ s ∈ srcs, Built s) → Built (Container.merge srcs)

theorem Container.push_eq_of_raw {h : Container} (item : List Nat) (hraw : h.coded = none) :
    Container.push h item = some ({ h with raw := h.raw ++ item, stats := item.foldl bump h.stats },
      (h.raw.length, h.raw.length + item.length)) := by
  simp only [Container.push, hraw]

theorem Container.push_eq_of_coded {h : Container} {c : Code} {bytes : List Nat} {bits : Nat} (item : List Nat)
    (hcoded : h.coded = some (c, bytes, bits)) :
    Container.push h item = (pushSymbols c bytes bits item).map fun p =>
      ({ h with coded := some (c, p.1, p.2.1), stats := item.foldl bump h.stats }, p.2.2) := by
  simp only [Container.push, hcoded]
  cases pushSymbols c bytes bits item <;> rfl

theorem Container.index_eq_of_raw {h : Container} (hraw : h.coded = none) (i : Nat × Nat) :
    Container.index h i = if i.1 ≤ i.2 ∧ i.2 ≤ h.raw.length then some ((h.raw.drop i.1).take (i.2 - i.1)) else none := by
  simp only [Container.index, hraw]

theorem Container.index_eq_of_coded {h : Container} {c : Code} {bytes : List Nat} {bits : Nat}
    (hcoded : h.coded = some (c, bytes, bits)) (i : Nat × Nat) : Container.index h i = decodeRange c bytes i.1 i.2 := by
  simp only [Container.index, hcoded]

theorem push_stats (h h' : Container) (item : List Nat) (i : Nat × Nat)
    (hp : Container.push h item = some (h', i)) : h'.stats = item.foldl bump h.stats := by
  rcases hc : h.coded with _ | ⟨c, bytes, bits⟩
  · cases (Container.push_eq_of_raw item hc).symm.trans hp
    rfl
  · obtain ⟨p, -, ⟨⟩⟩ := Option.map_eq_some_iff.mp ((Container.push_eq_of_coded item hc).symm.trans hp)
    rfl

theorem Built.stats_valid {h : Container} (hr : Built h) : Valid h.stats := by
  induction hr with
  | default => exact valid_nil
  | push _ hp ih => rw [push_stats _ _ _ _ hp]; exact foldl_bump_valid _ _ ih
  | clear _ _ => exact valid_nil
  | merge _ _ => exact valid_nil

end FC.Huff
