import FlatModel.Model.Region
/-! The laws every region satisfies (C01, C02, C08 core), the form in which the instances prove the push
laws (`LawfulRegion.ofPost`) and in which the wrappers use them (`push_post`, `isSome_push`), and the
laws of the terminal regions. -/
namespace FC
open Region

class LawfulRegion (R : Type) {V I : outParam Type} [Region R V I] : Prop where
  inv_default : Inv (default : R)
  /-- C01: an accepted push succeeds and the returned index reads the pushed value -/
  push_ok : ∀ (r : R) (v : V), Inv r → Accepts r v →
      ∃ r' i, push r v = some (r', i) ∧ ∃ v', index r' i = some v' ∧ same (R := R) v' v
  push_refuses : ∀ (r : R) (v : V), Inv r → ¬ Accepts r v → push r v = none
  push_inv : ∀ (r r' : R) (v : V) (i : I), Inv r → push r v = some (r', i) → Inv r' ∧ Valid r' i
  /-- C02: a push leaves every valid index valid and reading the same -/
  frame : ∀ (r r' : R) (v : V) (i j : I), Inv r → Valid r j → push r v = some (r', i) →
      Valid r' j ∧ index r' j = index r j
  valid_reads : ∀ (r : R) (j : I), Inv r → Valid r j → ∃ u, index r j = some u
  clear_inv : ∀ r : R, Inv r → Inv (clear r)
  /-- C08 -/
  clear_sim : ∀ r : R, Inv r → Sim (clear r) default
  sim_refl : ∀ r : R, Inv r → Sim r r
  sim_push : ∀ (a b : R) (v : V), Sim a b → Inv a → Inv b →
      (push a v = none ∧ push b v = none) ∨
      ∃ a' b' i, push a v = some (a', i) ∧ push b v = some (b', i) ∧ Sim a' b'
  sim_index : ∀ (a b : R) (i : I), Sim a b → Inv a → Inv b →
      (Valid a i ↔ Valid b i) ∧ (Valid a i → index a i = index b i)

/-- C02 for one step -/
def Region.Extends {R V I : Type} [Region R V I] (r r' : R) : Prop :=
  ∀ j, Valid r j → Valid r' j ∧ index r' j = index r j

/-- A conjunction and not a structure: the `PushPost` of a wrapper that only forwards is then, by unfolding, that of
its inner region. -/
def Region.PushPost {R V I : Type} [Region R V I] (r : R) (v : V) (r' : R) (i : I) : Prop :=
  Inv r' ∧ Valid r' i ∧ (∃ u, index r' i = some u ∧ same (R := R) u v) ∧ Extends r r'

namespace Region.PushPost
variable {R V I : Type} [Region R V I] {r r' : R} {v : V} {i : I} (h : PushPost r v r' i)
include h
theorem inv : Inv r' := h.1
theorem valid : Valid r' i := h.2.1
theorem reads : ∃ u, index r' i = some u ∧ same (R := R) u v := h.2.2.1
theorem extends_ : Extends r r' := h.2.2.2
end Region.PushPost

inductive Pushes {R V I : Type} [Region R V I] : R → R → Prop
  | refl (r : R) : Pushes r r
  | step {r r₁ r' : R} {v : V} {i : I} : push r v = some (r₁, i) → Pushes r₁ r' → Pushes r r'

section
variable {R V I : Type} [Region R V I]

theorem Pushes.single {r r' : R} {v : V} {i : I} (h : push r v = some (r', i)) : Pushes r r' :=
  .step h (.refl _)

/-- For a relation to the start `r`, take `S x := Q r x`. -/
theorem Pushes.closed {S : R → Prop} (hS : ∀ (r r' : R) (v : V) (i : I), S r → push r v = some (r', i) → S r') {r r' : R}
    (hp : Pushes r r') (h : S r) : S r' := by
  induction hp with
  | refl => exact h
  | step h1 _ ih => exact ih (hS _ _ _ _ h h1)

theorem Region.Extends.refl (r : R) : Extends r r := fun _ h => ⟨h, rfl⟩

theorem Region.Extends.trans {a b c : R} (h1 : Extends a b) (h2 : Extends b c) : Extends a c :=
  fun j hj => ⟨(h2 j (h1 j hj).1).1, (h2 j (h1 j hj).1).2.trans (h1 j hj).2⟩

theorem LawfulRegion.ofPost
    (inv_default : Inv (default : R))
    (isSome_push : ∀ (r : R) (v : V), Inv r → ((push r v).isSome ↔ Accepts r v))
    (push_post : ∀ (r r' : R) (v : V) (i : I), Inv r → push r v = some (r', i) → PushPost r v r' i)
    (valid_reads : ∀ (r : R) (j : I), Inv r → Valid r j → ∃ u, index r j = some u)
    (clear_inv : ∀ r : R, Inv r → Inv (clear r))
    (clear_sim : ∀ r : R, Inv r → Sim (clear r) default)
    (sim_refl : ∀ r : R, Inv r → Sim r r)
    (sim_push : ∀ (a b : R) (v : V), Sim a b → Inv a → Inv b →
      (push a v = none ∧ push b v = none) ∨
      ∃ a' b' i, push a v = some (a', i) ∧ push b v = some (b', i) ∧ Sim a' b')
    (sim_index : ∀ (a b : R) (i : I), Sim a b → Inv a → Inv b →
      (Valid a i ↔ Valid b i) ∧ (Valid a i → index a i = index b i)) : LawfulRegion R where
  inv_default := inv_default
  push_ok r v hi ha := by
    obtain ⟨⟨r', i⟩, hp⟩ := Option.isSome_iff_exists.mp ((isSome_push r v hi).mpr ha)
    exact ⟨r', i, hp, (push_post r r' v i hi hp).reads⟩
  push_refuses r v hi hna := by
    cases hp : push r v with
    | none => rfl
    | some p => exact absurd ((isSome_push r v hi).mp (by simp [hp])) hna
  push_inv r r' v i hi hp := ⟨(push_post r r' v i hi hp).inv, (push_post r r' v i hi hp).valid⟩
  frame r r' v i j hi hv hp := (push_post r r' v i hi hp).extends_ j hv
  valid_reads := valid_reads
  clear_inv := clear_inv
  clear_sim := clear_sim
  sim_refl := sim_refl
  sim_push := sim_push
  sim_index := sim_index

variable [LawfulRegion R] {r r' : R} {v : V} {i : I}

theorem LawfulRegion.isSome_push (hi : Inv r) : (push r v).isSome ↔ Accepts r v := by
  constructor
  · intro h
    apply Classical.byContradiction
    intro hna
    simp [push_refuses r v hi hna] at h
  · intro ha
    obtain ⟨r', i, hp, _⟩ := push_ok r v hi ha
    simp [hp]

/-- `hp` comes first: the invariant of a wrapper unfolds to that of its inner region, so `hi` alone
would not tell which of the two `r` is -/
theorem LawfulRegion.push_post (hp : push r v = some (r', i)) (hi : Inv r) : PushPost r v r' i := by
  obtain ⟨r1, i1, hp1, hread⟩ := push_ok r v hi ((isSome_push hi).mp (by simp [hp]))
  cases hp.symm.trans hp1
  exact ⟨(push_inv r r' v i hi hp).1, (push_inv r r' v i hi hp).2, hread, fun j hj => frame r r' v i j hi hj hp⟩

/-- `sim_push` for a wrapper whose push is the inner push mapped -/
theorem LawfulRegion.sim_push_map {R' I' : Type} {S' : R' → R' → Prop} {a b : R} (v : V) (hs : Sim a b) (ha : Inv a)
    (hb : Inv b) {f g : R × I → R' × I'}
    (hfg : ∀ a' b' i, Sim a' b' → S' (f (a', i)).1 (g (b', i)).1 ∧ (f (a', i)).2 = (g (b', i)).2) :
    ((push a v).map f = none ∧ (push b v).map g = none) ∨
      ∃ a' b' i, (push a v).map f = some (a', i) ∧ (push b v).map g = some (b', i) ∧ S' a' b' := by
  rcases sim_push a b v hs ha hb with ⟨h1, h2⟩ | ⟨a', b', i, h1, h2, h3⟩
  · exact Or.inl ⟨by rw [h1]; rfl, by rw [h2]; rfl⟩
  · exact Or.inr ⟨_, _, _, by rw [h1]; rfl, by rw [h2, Option.map_some, (hfg a' b' i h3).2], (hfg a' b' i h3).1⟩

theorem Region.Extends.of_sim {r r' : R} (hs : Sim r' r) (hi' : Inv r') (hi : Inv r) : Extends r r' :=
  fun j hj =>
    have h := LawfulRegion.sim_index r' r j hs hi' hi
    ⟨h.1.mpr hj, h.2 (h.1.mpr hj)⟩

end

instance (T : Type) : LawfulRegion (MirrorRegion T) where
  inv_default := trivial
  push_ok r v _ _ := ⟨r, v, rfl, v, rfl, rfl⟩
  push_refuses _ _ _ h := absurd trivial h
  push_inv _ _ _ _ _ _ := ⟨trivial, trivial⟩
  frame _ _ _ _ _ _ _ _ := ⟨trivial, rfl⟩
  valid_reads _ j _ _ := ⟨j, rfl⟩
  clear_inv _ _ := trivial
  clear_sim _ _ := trivial
  sim_refl _ _ := trivial
  sim_push a b v _ _ _ := Or.inr ⟨a, b, v, rfl, rfl, trivial⟩
  sim_index _ _ _ _ _ _ := ⟨Iff.rfl, fun _ => rfl⟩

theorem take_drop_append_left {T} (l v : List T) (a b : Nat) (h2 : b ≤ l.length) :
    ((l ++ v).drop a).take (b - a) = (l.drop a).take (b - a) := by
  rcases Nat.lt_or_ge b a with h | h
  · have : b - a = 0 := by omega
    simp [this]
  · rw [List.drop_append_of_le_length (by omega), List.take_append_of_le_length]
    simp; omega

instance (T : Type) : LawfulRegion (OwnedRegion T) := .ofPost
  (inv_default := trivial)
  (isSome_push := fun _ _ _ => ⟨fun _ => trivial, fun _ => rfl⟩)
  (push_post := by
    rintro r _ v _ - ⟨⟩
    refine ⟨trivial, by simp [Region.Valid, MVec.len], ⟨v, by simp [Region.index, MVec.len], rfl⟩, fun j hv => ?_⟩
    simp only [Region.Valid, MVec.len] at hv
    simp only [Region.Valid, Region.index, MVec.len, MVec.extend_data, List.length_append]
    refine ⟨⟨hv.1, by omega⟩, ?_⟩
    have h1 : j.1 ≤ j.2 ∧ j.2 ≤ r.slices.data.length + v.length := ⟨hv.1, by omega⟩
    simp only [h1, hv, and_self, if_true]
    rw [take_drop_append_left _ _ _ _ hv.2])
  (valid_reads := fun r j _ hv => by
    simp only [Region.Valid] at hv
    exact ⟨(r.slices.data.drop j.1).take (j.2 - j.1), by simp only [Region.index, hv, and_self, if_true]⟩)
  (clear_inv := fun _ _ => trivial)
  (clear_sim := fun _ _ => rfl)
  (sim_refl := fun _ _ => rfl)
  (sim_push := fun a b v hs _ _ => by
    simp only [Region.Sim] at hs
    refine Or.inr ⟨⟨a.slices.extend v⟩, ⟨b.slices.extend v⟩, (a.slices.len, a.slices.len + v.length), rfl, ?_, ?_⟩
    · simp [Region.push, MVec.len, hs]
    · simp [Region.Sim, hs])
  (sim_index := fun a b i hs _ _ => by
    obtain ⟨⟨da, ca⟩⟩ := a
    obtain ⟨⟨db, cb⟩⟩ := b
    simp only [Region.Sim] at hs
    subst hs
    exact ⟨Iff.rfl, fun _ => rfl⟩)

instance (T : Type) : LawfulRegion (VecRegion T) := .ofPost
  (inv_default := trivial)
  (isSome_push := fun _ _ _ => ⟨fun _ => trivial, fun _ => rfl⟩)
  (push_post := by
    rintro r _ v _ - ⟨⟩
    refine ⟨trivial, by simp [Region.Valid, MVec.len], ⟨v, by simp [Region.index, MVec.len], rfl⟩, fun j hv => ?_⟩
    simp only [Region.Valid, MVec.len] at hv
    simp only [Region.Valid, Region.index, MVec.len, MVec.push_data, List.length_append, List.length_singleton]
    exact ⟨by omega, List.getElem?_append_left hv⟩)
  (valid_reads := fun r j _ hv => by
    simp only [Region.Valid, MVec.len] at hv
    exact ⟨r.v.data[j], by simp [Region.index, hv]⟩)
  (clear_inv := fun _ _ => trivial)
  (clear_sim := fun _ _ => rfl)
  (sim_refl := fun _ _ => rfl)
  (sim_push := fun a b v hs _ _ => by
    simp only [Region.Sim] at hs
    refine Or.inr ⟨⟨a.v.push v⟩, ⟨b.v.push v⟩, a.v.len, rfl, ?_, ?_⟩
    · simp [Region.push, MVec.len, hs]
    · simp [Region.Sim, hs])
  (sim_index := fun a b i hs _ _ => by
    simp only [Region.Sim] at hs
    simp [Region.Valid, Region.index, MVec.len, hs])

end FC
