import FlatModel.Model.Items
import FlatModel.Proofs.Slice
import FlatModel.Proofs.Columns
import FlatModel.Proofs.Stack
/-! Helper lemmas about the read items `ReadSlice` / `ReadColumns` (C13, C14, C15):
element reads as a list of possibly-panicking thunks, the zip/extend/truncate argument of
`clone_onto`, and the comparison `Iterator::eq` / `Iterator::cmp` perform. -/
namespace FC
open Region

theorem mapM_map_congr {α β γ : Type} (f : α → Option β) (g : β → γ) (f' : α → Option γ) (l : List α)
    (h : ∀ a ∈ l, (f a).map g = f' a) : (l.mapM f).map (List.map g) = l.mapM f' := by
  induction l with
  | nil => rfl
  | cons a l ih =>
    have ha := h a (List.mem_cons_self ..)
    have ih' := ih (fun b hb => h b (List.mem_cons_of_mem _ hb))
    rw [List.mapM_cons, List.mapM_cons, ← ha, ← ih']
    cases f a with
    | none => rfl
    | some b => cases l.mapM f <;> rfl

section
variable {R V I : Type} [Region R V I]

theorem readRow_eq_some (cs : List R) (is : List I) (vs : List V) (h : readRow cs is = some vs) :
    is.length = vs.length ∧ ∀ k, (ReadColumns.backed cs is : ReadColumns R I V).get k = vs[k]? := by
  fun_induction readRow cs is generalizing vs with
  | case1 cs =>
    cases h
    exact ⟨rfl, fun k => by cases hc : cs[k]? <;> simp [ReadColumns.get, hc]⟩
  | case3 c cs i is v vs' hr hv ih =>
    cases h
    refine ⟨congrArg (· + 1) (ih vs' hr).1, fun k => ?_⟩
    cases k with
    | zero => exact hv
    | succ k => exact (ih vs' hr).2 k
  | case2 | case4 => cases h

end

theorem map_fst_zip_eq_take {α β : Type} (items : List α) (t : List β) :
    (List.zip items t).map (·.1) = items.take t.length := by
  induction items generalizing t with
  | nil => simp
  | cons a items ih =>
    cases t with
    | nil => simp
    | cons b t => simp [ih]

/-- The list computation of `clone_onto`: overwrite the common prefix, extend with what the target
lacks, truncate to the source length. Whatever the target held, the result is the source. -/
theorem cloneOnto_list {α : Type} (items t : List α) :
    (((List.zip items t).map (·.1) ++ t.drop ((List.zip items t).map (·.1)).length ++
        items.drop (min items.length t.length)).take items.length) = items := by
  rw [map_fst_zip_eq_take items t]
  rcases Nat.lt_or_ge t.length items.length with hlt | hge
  · have h1 : (items.take t.length).length = t.length := by simp; omega
    rw [h1, List.drop_length, List.append_nil, Nat.min_eq_right (Nat.le_of_lt hlt), List.take_append_drop,
      List.take_length]
  · rw [List.take_of_length_le hge, Nat.min_eq_left hge, List.drop_length, List.append_nil,
      List.take_append_of_le_length (Nat.le_refl _), List.take_length]

/-- `clone_onto` as both item types have it: whatever the target held, the result is the iteration
(including its panic), provided `len` is the number of elements iterated -/
theorem cloneOnto_opt {V : Type} (it : Option (List V)) (n : Nat) (hn : ∀ vs, it = some vs → n = vs.length)
    (t : List V) :
    (match (motive := Option (List V) → Option (List V)) it with
      | none => none
      | some items =>
        let r := min n t.length
        let zipped := (List.zip items t).map (·.1)
        let extended := zipped ++ t.drop zipped.length ++ items.drop r
        some (extended.take n)) = it := by
  cases it with
  | none => rfl
  | some vs =>
    simp only [hn vs rfl]
    exact congrArg some (cloneOnto_list vs t)

namespace ReadSlice
variable {R V I O : Type} [Region R V I] [IdxCont O I]

def reads : ReadSlice R O V → List (Option V)
  | backed r s e => (List.range (e - s)).map fun k => (IdxCont.index r.slices (s + k)).bind (index r.inner)
  | borrowed vs => vs.map some

/-- `Region::reborrow` for the read item (src/impls/slice.rs:133): the identity, lifetimes only -/
def reborrow (x : ReadSlice R O V) : ReadSlice R O V := x

/-- the states in which the Rust type can exist: issued by `index` on a consistent region, or
borrowed from an owned vector -/
def WF : ReadSlice R O V → Prop
  | backed r s e => Inv r ∧ Valid r (s, e)
  | borrowed _ => True

theorem iter_eq_some_iff (x : ReadSlice R O V) (vs : List V) : x.iter = some vs ↔ x.reads = vs.map some := by
  cases x with
  | backed r s e => exact mapM_eq_some_iff _ _ vs
  | borrowed ws => simp only [iter, reads, Option.some.injEq, List.map_inj_right fun _ _ => Option.some.inj]

theorem reads_length (x : ReadSlice R O V) : x.reads.length = x.len := by
  cases x <;> simp [reads, len]

theorem get_eq_reads (x : ReadSlice R O V) (k : Nat) : x.get k = (x.reads[k]?).bind id := by
  cases x with
  | backed r s e =>
    simp only [get, reads, List.getElem?_map]
    by_cases h : k < e - s <;> simp [h]
  | borrowed vs =>
    simp only [get, reads, List.getElem?_map]
    cases vs[k]? <;> rfl

theorem len_of_iter (x : ReadSlice R O V) (vs : List V) (h : x.iter = some vs) : x.len = vs.length := by
  rw [← reads_length, (iter_eq_some_iff x vs).mp h, List.length_map]

theorem get_of_iter (x : ReadSlice R O V) (vs : List V) (h : x.iter = some vs) (k : Nat) : x.get k = vs[k]? := by
  rw [get_eq_reads, (iter_eq_some_iff x vs).mp h, List.getElem?_map]
  cases vs[k]? <;> rfl

theorem cloneOnto_eq_iter (x : ReadSlice R O V) (t : List V) : x.cloneOnto t = x.iter :=
  cloneOnto_opt x.iter x.len (len_of_iter x) t

theorem isEmpty_iff (x : ReadSlice R O V) (hx : x.WF) : x.isEmpty = true ↔ x.len = 0 := by
  cases x with
  | backed r s e =>
    have : s ≤ e := hx.2.1
    simp only [isEmpty, len, beq_iff_eq]
    omega
  | borrowed ws => exact List.isEmpty_iff_length_eq_zero

theorem get_eq_getLegacy (x : ReadSlice R O V) (k : Nat) (h : k ≠ x.len) : x.get k = x.getLegacy k := by
  cases x with
  | backed r s e =>
    simp only [len] at h
    simp only [get, getLegacy]
    by_cases h1 : k < e - s
    · simp [h1, Nat.le_of_lt h1]
    · have h2 : ¬ k ≤ e - s := by omega
      simp [h1, h2]
  | borrowed vs => rfl

variable [LawfulRegion R] [LawfulIdxCont O]

omit [LawfulRegion R] in
theorem reads_backed (r : SliceRegion R O) (s e : Nat) (hc : IdxCont.Inv r.slices)
    (he : e ≤ (IdxCont.iter r.slices).length) :
    (backed r s e : ReadSlice R O V).reads =
      (((IdxCont.iter r.slices).drop s).take (e - s)).map (index r.inner) := by
  apply List.ext_getElem?
  intro k
  simp only [reads, List.getElem?_map, List.getElem?_take, List.getElem?_drop,
    LawfulIdxCont.index_eq _ _ hc]
  by_cases hk : k < e - s
  · have : s + k < (IdxCont.iter r.slices).length := by omega
    simp [hk, List.getElem?_eq_getElem this]
  · simp [hk]

omit [LawfulRegion R] in
theorem iter_backed_eq_index (r : SliceRegion R O) (i : Nat × Nat) (hc : IdxCont.Inv r.slices)
    (hv : Valid r i) : (backed r i.1 i.2 : ReadSlice R O V).iter = index r i := by
  have hv' : i.1 ≤ i.2 ∧ i.2 ≤ (IdxCont.iter r.slices).length := hv
  refine Option.ext fun vs => ?_
  rw [iter_eq_some_iff, reads_backed r i.1 i.2 hc hv'.2, ← mapM_eq_some_iff, ← readAll_eq_mapM]
  simp only [Region.index, hv', and_self, if_true]

theorem iter_backed (r : SliceRegion R O) (i : Nat × Nat) (hi : Inv r) (hv : Valid r i) :
    ∃ vs, (backed r i.1 i.2 : ReadSlice R O V).iter = some vs ∧ index r i = some vs := by
  obtain ⟨vs, hvs⟩ := LawfulRegion.valid_reads r i hi hv
  exact ⟨vs, (iter_backed_eq_index r i hi.2.1 hv).trans hvs, hvs⟩

theorem wf_iter (x : ReadSlice R O V) (h : x.WF) : ∃ vs, x.iter = some vs := by
  cases x with
  | backed r s e => exact (iter_backed r (s, e) h.1 h.2).imp fun _ => And.left
  | borrowed vs => exact ⟨vs, rfl⟩

end ReadSlice

namespace ReadColumns
variable {R V I : Type} [Region R V I]

/-- `Region::reborrow` for the read item (src/impls/columns.rs:161): the identity -/
def reborrow (x : ReadColumns R I V) : ReadColumns R I V := x

/-- issued by `index` on a consistent region (every column consistent, the row of indices valid
for the columns), or borrowed -/
def WF : ReadColumns R I V → Prop
  | backed cols ix => (∀ c ∈ cols, Inv c) ∧ RowValid cols ix
  | borrowed _ => True

theorem len_of_iter (x : ReadColumns R I V) (vs : List V) (h : x.iter = some vs) : x.len = vs.length := by
  cases x with
  | backed cols ix => exact (readRow_eq_some cols ix vs h).1
  | borrowed ws =>
    cases h
    rfl

theorem get_of_iter (x : ReadColumns R I V) (vs : List V) (h : x.iter = some vs) (k : Nat) : x.get k = vs[k]? := by
  cases x with
  | backed cols ix => exact (readRow_eq_some cols ix vs h).2 k
  | borrowed ws =>
    cases h
    rfl

omit [Region R V I] in
theorem isEmpty_iff (x : ReadColumns R I V) : x.isEmpty = true ↔ x.len = 0 := by
  cases x <;> exact List.isEmpty_iff_length_eq_zero

theorem cloneOnto_eq_iter (x : ReadColumns R I V) (t : List V) : x.cloneOnto t = x.iter :=
  cloneOnto_opt x.iter x.len (len_of_iter x) t

theorem wf_iter [LawfulRegion R] (x : ReadColumns R I V) (h : x.WF) : ∃ vs, x.iter = some vs := by
  cases x with
  | backed cols ix => exact readRow_some_of_valid cols ix h.1 h.2
  | borrowed vs => exact ⟨vs, rfl⟩

theorem iter_backed [LawfulRegion R] {O : Type} [IdxCont O Nat] [LawfulIdxCont O] (r : ColumnsRegion R I O) (k : Nat)
    (hi : Inv r) (hv : Valid r k) :
    ∃ ix vs, index r.indices k = some ix ∧ (backed r.cols ix : ReadColumns R I V).WF ∧
      (backed r.cols ix : ReadColumns R I V).iter = some vs ∧ index r k = some vs := by
  obtain ⟨hin, hcols, hrows⟩ := hi
  obtain ⟨ix, hix⟩ := LawfulRegion.valid_reads r.indices k hin hv
  have hrv := hrows k ix hv hix
  obtain ⟨vs, hvs⟩ := readRow_some_of_valid r.cols ix hcols hrv
  exact ⟨ix, vs, hix, ⟨hcols, hrv⟩, hvs, by rw [ColumnsRegion.index_eq, hix]; exact hvs⟩

end ReadColumns

/-- `==` on owned vectors: same length, element-wise `==` -/
def listEq {V : Type} (eqV : V → V → Bool) : List V → List V → Bool
  | [], [] => true
  | a :: as, b :: bs => eqV a b && listEq eqV as bs
  | _, _ => false

/-- `Ord for [T]`: lexicographic, a proper prefix is smaller -/
def lexCmp {V : Type} (cmpV : V → V → Ordering) : List V → List V → Ordering
  | [], [] => .eq
  | [], _ :: _ => .lt
  | _ :: _, [] => .gt
  | a :: as, b :: bs =>
    match cmpV a b with
    | .eq => lexCmp cmpV as bs
    | o => o

/-- `Iterator::cmp_by` as std implements it (`iter_compare`): pull from `a`; if it yields, pull from
`b`; compare; stop at the first difference. Elements are reads that may panic (`none`); a panic
only happens if the read is actually performed. -/
def iterCmp {V : Type} (cmpV : V → V → Ordering) : List (Option V) → List (Option V) → Option Ordering
  | [], [] => some .eq
  | [], none :: _ => none
  | [], some _ :: _ => some .lt
  | none :: _, _ => none
  | some _ :: _, [] => some .gt
  | some _ :: _, none :: _ => none
  | some a :: as, some b :: bs =>
    match cmpV a b with
    | .eq => iterCmp cmpV as bs
    | o => some o

/-- `Iterator::eq_by`: the same loop with `==`, `true` iff it runs off both ends together -/
def iterEq {V : Type} (eqV : V → V → Bool) : List (Option V) → List (Option V) → Option Bool
  | [], [] => some true
  | [], none :: _ => none
  | [], some _ :: _ => some false
  | none :: _, _ => none
  | some _ :: _, [] => some false
  | some _ :: _, none :: _ => none
  | some a :: as, some b :: bs => if eqV a b then iterEq eqV as bs else some false

theorem iterCmp_map_some {V : Type} (cmpV : V → V → Ordering) (xs ys : List V) :
    iterCmp cmpV (xs.map some) (ys.map some) = some (lexCmp cmpV xs ys) := by
  fun_induction lexCmp cmpV xs ys <;> simp [iterCmp, *]

theorem iterEq_map_some {V : Type} (eqV : V → V → Bool) (xs ys : List V) :
    iterEq eqV (xs.map some) (ys.map some) = some (listEq eqV xs ys) := by
  induction xs generalizing ys with
  | nil => cases ys <;> rfl
  | cons x xs ih =>
    cases ys with
    | nil => rfl
    | cons y ys => cases h : eqV x y <;> simp [iterEq, listEq, ih, h]

namespace ReadSlice
variable {R V I O : Type} [Region R V I] [IdxCont O I]

/-- `PartialEq for ReadSlice`: `self.iter().eq(*other)`; `none` = an element read panicked -/
def eq (eqV : V → V → Bool) (a b : ReadSlice R O V) : Option Bool := iterEq eqV a.reads b.reads
/-- `Ord for ReadSlice`: `self.iter().cmp(*other)` -/
def cmp (cmpV : V → V → Ordering) (a b : ReadSlice R O V) : Option Ordering := iterCmp cmpV a.reads b.reads

end ReadSlice

/-- what C15 assumes of the element order (`Ord` contract of `R::ReadItem`) -/
structure LawfulCmp {V : Type} (cmpV : V → V → Ordering) : Prop where
  refl : ∀ x, cmpV x x = .eq
  /-- the two orientations agree (`Std.OrientedCmp`); that `.eq` means equal is `eq_imp` -/
  antisymm : ∀ x y, cmpV x y = .lt ↔ cmpV y x = .gt
  trans_lt : ∀ x y z, cmpV x y = .lt → cmpV y z = .lt → cmpV x z = .lt
  eq_imp : ∀ x y, cmpV x y = .eq → x = y

theorem lexCmp_eq_compareLex {V : Type} (cmpV : V → V → Ordering) (xs ys : List V) :
    lexCmp cmpV xs ys = List.compareLex cmpV xs ys := by
  induction xs generalizing ys with
  | nil => cases ys <;> rfl
  | cons x xs ih =>
    cases ys with
    | nil => rfl
    | cons y ys =>
      rw [lexCmp, List.compareLex, ih]
      cases cmpV x y <;> rfl

namespace LawfulCmp
open Std
variable {V : Type} {cmpV : V → V → Ordering}

/-- `LawfulCmp` is `Std.TransCmp` + `Std.LawfulEqCmp`, in the form C15 states it -/
theorem of_std [TransCmp cmpV] [LawfulEqCmp cmpV] : LawfulCmp cmpV where
  refl _ := ReflCmp.compare_self
  antisymm _ _ := OrientedCmp.gt_iff_lt.symm
  trans_lt _ _ _ := TransCmp.lt_trans
  eq_imp _ _ := LawfulEqCmp.eq_of_compare

variable (L : LawfulCmp cmpV)
include L

theorem lawfulEqCmp : LawfulEqCmp cmpV where
  compare_self := L.refl _
  eq_of_compare := L.eq_imp _ _

theorem swap (x y : V) : cmpV y x = (cmpV x y).swap := by
  cases h : cmpV x y with
  | lt => exact (L.antisymm x y).mp h
  | eq => cases L.eq_imp x y h; exact h
  | gt => exact (L.antisymm y x).mpr h

theorem transCmp : TransCmp cmpV where
  eq_swap := L.swap _ _
  isLE_trans {x y z} h1 h2 := by
    cases hxy : cmpV x y with
    | gt => rw [hxy] at h1; cases h1
    | eq => cases L.eq_imp x y hxy; exact h2
    | lt =>
      cases hyz : cmpV y z with
      | gt => rw [hyz] at h2; cases h2
      | eq =>
        cases L.eq_imp y z hyz
        rw [hxy]
        rfl
      | lt =>
        rw [L.trans_lt x y z hxy hyz]
        rfl

/-- the laws lift to lists: `lexCmp` is core's `List.compareLex`, whose instances do the work -/
theorem lex : LawfulCmp (lexCmp cmpV) := by
  have := L.transCmp
  have := L.lawfulEqCmp
  rw [funext fun xs => funext (lexCmp_eq_compareLex cmpV xs)]
  exact of_std

end LawfulCmp

/-! ### Concrete small regions used by the `example`s of C13–C15 (satisfiability of hypotheses) -/
namespace ItemsEx

/-- two adjacent items `[10, 20]` at `(0, 2)` and `[30]` at `(2, 3)` -/
def twoItems : SliceRegion (MirrorRegion Nat) (VecIdx Nat 8) := ⟨⟨[10, 20, 30]⟩, {}⟩
theorem twoItems_inv : Inv twoItems := ⟨trivial, trivial, fun _ _ => trivial⟩
theorem twoItems_valid₁ : Valid twoItems (0, 2) := by show 0 ≤ 2 ∧ 2 ≤ 3; decide
theorem twoItems_valid₂ : Valid twoItems (2, 3) := by show 2 ≤ 3 ∧ 3 ≤ 3; decide

def dst : SliceRegion (MirrorRegion Nat) (VecIdx Nat 8) := ⟨⟨[7]⟩, {}⟩
theorem dst_inv : Inv dst := ⟨trivial, trivial, fun _ _ => trivial⟩
theorem dst_accepts : Accepts dst [10, 20] := ⟨trivial, fun _ _ _ => ⟨trivial, fun _ _ _ => trivial⟩⟩

/-- elements `1 1 2 1 1`, to cut items `[1, 1]`, `[1, 1, 2]`, `[2, 1]` from -/
def reg : SliceRegion (MirrorRegion Nat) (VecIdx Nat 8) := ⟨⟨[1, 1, 2, 1, 1]⟩, {}⟩

def oneRow : ColumnsRegion (MirrorRegion Nat) Nat (VecIdx Nat 8) :=
  ⟨⟨⟨⟨[1, 2], 2⟩⟩, ⟨[0, 2]⟩, 2⟩, [{}, {}]⟩
def twoRows : ColumnsRegion (MirrorRegion Nat) Nat (VecIdx Nat 8) :=
  ⟨⟨⟨⟨[1, 2, 3], 4⟩⟩, ⟨[0, 2, 3]⟩, 3⟩, [{}, {}]⟩
theorem oneRow_push :
    push (Region.default : ColumnsRegion (MirrorRegion Nat) Nat (VecIdx Nat 8)) [1, 2] = some (oneRow, 0) := rfl
theorem twoRows_push : push oneRow [3] = some (twoRows, 1) := rfl
theorem twoRows_inv : Inv twoRows ∧ Valid twoRows 0 ∧ Valid twoRows 1 := by
  have h1 := LawfulRegion.push_inv _ _ _ _ LawfulRegion.inv_default oneRow_push
  have h2 := LawfulRegion.push_inv _ _ _ _ h1.1 twoRows_push
  exact ⟨h2.1, (LawfulRegion.frame _ _ _ _ _ h1.1 h1.2 twoRows_push).1, h2.2⟩

theorem natCmp_lawful : LawfulCmp (compare : Nat → Nat → Ordering) := .of_std

end ItemsEx

end FC
