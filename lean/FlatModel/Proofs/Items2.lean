import FlatModel.Model.Items2
import FlatModel.Model.ItemOps
import FlatModel.Proofs.Items
import FlatModel.Proofs.HuffRegion
/-! Helper lemmas for the composite read items (`Option`, `Result`, tuples, slices of items) and the
Huffman read item `Wrapped` (C14, C15): the `IntoOwned` laws in compositional form, the class
`ItemLaws` that closes them under nesting, and the comparison lemmas for `Wrapped`. -/
namespace FC
open Region

namespace OptionItem
variable {X O : Type}

theorem cloneOnto_eq (io : X → O) (co : X → O → O) (h : ∀ x t, co x t = io x) (x : Option X) (t : Option O) :
    cloneOnto io co x t = intoOwned io x := by
  cases x <;> cases t <;> simp [cloneOnto, intoOwned, h]

theorem intoOwned_borrowAs (io : X → O) (ba : O → X) (h : ∀ o, io (ba o) = o) (o : Option O) :
    intoOwned io (borrowAs ba o) = o := by
  cases o <;> simp [intoOwned, borrowAs, h]

theorem reborrow_id (rb : X → X) (h : ∀ x, rb x = x) (x : Option X) : reborrow rb x = x := by
  cases x <;> simp [reborrow, h]

theorem intoOwned_eq_map (io : X → O) (x : Option X) : intoOwned io x = x.map io := by cases x <;> rfl
theorem borrowAs_eq_map (ba : O → X) (o : Option O) : borrowAs ba o = o.map ba := by cases o <;> rfl

end OptionItem

namespace ResultItem
variable {XT OT XE OE : Type}

theorem cloneOnto_eq (ioT : XT → OT) (coT : XT → OT → OT) (ioE : XE → OE) (coE : XE → OE → OE)
    (hT : ∀ x t, coT x t = ioT x) (hE : ∀ x t, coE x t = ioE x) (x : Except XE XT) (t : Except OE OT) :
    cloneOnto ioT coT ioE coE x t = intoOwned ioT ioE x := by
  cases x <;> cases t <;> simp [cloneOnto, intoOwned, hT, hE]

theorem intoOwned_borrowAs (ioT : XT → OT) (baT : OT → XT) (ioE : XE → OE) (baE : OE → XE)
    (hT : ∀ o, ioT (baT o) = o) (hE : ∀ o, ioE (baE o) = o) (o : Except OE OT) :
    intoOwned ioT ioE (borrowAs baT baE o) = o := by
  cases o <;> simp [intoOwned, borrowAs, hT, hE]

theorem reborrow_id (rbT : XT → XT) (rbE : XE → XE) (hT : ∀ x, rbT x = x) (hE : ∀ x, rbE x = x)
    (x : Except XE XT) : reborrow rbT rbE x = x := by
  cases x <;> simp [reborrow, hT, hE]

end ResultItem

namespace TupleItem
variable {XA OA XB OB : Type}

theorem cloneOnto_eq (ioA : XA → OA) (coA : XA → OA → OA) (ioB : XB → OB) (coB : XB → OB → OB)
    (hA : ∀ x t, coA x t = ioA x) (hB : ∀ x t, coB x t = ioB x) (x : XA × XB) (t : OA × OB) :
    cloneOnto coA coB x t = intoOwned ioA ioB x := by
  obtain ⟨a, b⟩ := x
  obtain ⟨ta, tb⟩ := t
  simp [cloneOnto, intoOwned, hA, hB]

theorem intoOwned_borrowAs (ioA : XA → OA) (baA : OA → XA) (ioB : XB → OB) (baB : OB → XB)
    (hA : ∀ o, ioA (baA o) = o) (hB : ∀ o, ioB (baB o) = o) (o : OA × OB) :
    intoOwned ioA ioB (borrowAs baA baB o) = o := by
  obtain ⟨a, b⟩ := o
  simp [intoOwned, borrowAs, hA, hB]

theorem reborrow_id (rbA : XA → XA) (rbB : XB → XB) (hA : ∀ x, rbA x = x) (hB : ∀ x, rbB x = x)
    (x : XA × XB) : reborrow rbA rbB x = x := by
  obtain ⟨a, b⟩ := x
  simp [reborrow, hA, hB]

end TupleItem

namespace SliceItem
variable {X O : Type}

theorem zip_clone_eq (io : X → O) (co : X → O → O) (h : ∀ x t, co x t = io x) (elems : List X) (t : List O) :
    (List.zip elems t).map (fun (p : X × O) => co p.1 p.2) = (List.zip (elems.map io) t).map (·.1) := by
  rw [List.zip_map_left, List.map_map]
  exact List.map_congr_left fun p _ => h p.1 p.2

theorem cloneOnto_eq (io : X → O) (co : X → O → O) (h : ∀ x t, co x t = io x) (elems : List X) (t : List O) :
    cloneOnto io co elems t = intoOwned io elems := by
  have := cloneOnto_list (elems.map io) t
  have e : (elems.map io).length = elems.length := List.length_map ..
  rw [e] at this
  simp only [cloneOnto, intoOwned, zip_clone_eq io co h]
  rw [List.map_drop]
  exact this

theorem cloneOnto_base {V : Type} (io : V → V) (co : V → V → V) (hio : ∀ x, io x = x)
    (hco : ∀ x t, co x t = x) (items t : List V) : cloneOnto io co items t = items := by
  rw [cloneOnto_eq io co (fun x t => (hco x t).trans (hio x).symm), intoOwned,
    List.map_congr_left (fun x _ => hio x), List.map_id']

theorem intoOwned_borrowAs (io : X → O) (ba : O → X) (h : ∀ o, io (ba o) = o) (o : List O) :
    intoOwned io (borrowAs ba o) = o := by
  simp only [intoOwned, borrowAs, List.map_map]
  exact (List.map_congr_left fun x _ => h x).trans (List.map_id _)

theorem reborrow_id (elems : List X) : reborrow elems = elems := rfl

end SliceItem

/-- an item type `X` with owned type `O`: the three `IntoOwned` operations and the two laws
C14 states (`clone_onto` leaves `into_owned` in the target whatever it held; `borrow_as` then
`into_owned` is the identity) -/
class ItemLaws (X : Type) (O : outParam Type) where
  intoOwned : X → O
  cloneOnto : X → O → O
  borrowAs : O → X
  cloneOnto_eq : ∀ x t, cloneOnto x t = intoOwned x
  intoOwned_borrowAs : ∀ o, intoOwned (borrowAs o) = o

namespace ItemLaws

/-- base items (`implement_for!` in mirror.rs) -/
@[reducible] def base (T : Type) : ItemLaws T T where
  intoOwned := BaseItem.intoOwned
  cloneOnto := BaseItem.cloneOnto
  borrowAs := BaseItem.borrowAs
  cloneOnto_eq _ _ := rfl
  intoOwned_borrowAs _ := rfl

instance : ItemLaws Unit Unit := base Unit
instance : ItemLaws Bool Bool := base Bool
instance : ItemLaws Char Char := base Char
instance : ItemLaws Nat Nat := base Nat
instance : ItemLaws Int Int := base Int
instance : ItemLaws UInt8 UInt8 := base UInt8
instance : ItemLaws UInt16 UInt16 := base UInt16
instance : ItemLaws UInt32 UInt32 := base UInt32
instance : ItemLaws UInt64 UInt64 := base UInt64

instance {X O : Type} [ItemLaws X O] : ItemLaws (Option X) (Option O) where
  intoOwned := OptionItem.intoOwned intoOwned
  cloneOnto := OptionItem.cloneOnto intoOwned cloneOnto
  borrowAs := OptionItem.borrowAs borrowAs
  cloneOnto_eq := OptionItem.cloneOnto_eq _ _ cloneOnto_eq
  intoOwned_borrowAs := OptionItem.intoOwned_borrowAs _ _ intoOwned_borrowAs

instance {XT OT XE OE : Type} [ItemLaws XT OT] [ItemLaws XE OE] : ItemLaws (Except XE XT) (Except OE OT) where
  intoOwned := ResultItem.intoOwned intoOwned intoOwned
  cloneOnto := ResultItem.cloneOnto intoOwned cloneOnto intoOwned cloneOnto
  borrowAs := ResultItem.borrowAs borrowAs borrowAs
  cloneOnto_eq := ResultItem.cloneOnto_eq _ _ _ _ cloneOnto_eq cloneOnto_eq
  intoOwned_borrowAs := ResultItem.intoOwned_borrowAs _ _ _ _ intoOwned_borrowAs intoOwned_borrowAs

instance {XA OA XB OB : Type} [ItemLaws XA OA] [ItemLaws XB OB] : ItemLaws (XA × XB) (OA × OB) where
  intoOwned := TupleItem.intoOwned intoOwned intoOwned
  cloneOnto := TupleItem.cloneOnto cloneOnto cloneOnto
  borrowAs := TupleItem.borrowAs borrowAs borrowAs
  cloneOnto_eq := TupleItem.cloneOnto_eq _ _ _ _ cloneOnto_eq cloneOnto_eq
  intoOwned_borrowAs := TupleItem.intoOwned_borrowAs _ _ _ _ intoOwned_borrowAs intoOwned_borrowAs

/-- slices of items, represented by the list of element items the iterator yields -/
instance {X O : Type} [ItemLaws X O] : ItemLaws (List X) (List O) where
  intoOwned := SliceItem.intoOwned intoOwned
  cloneOnto := SliceItem.cloneOnto intoOwned cloneOnto
  borrowAs := SliceItem.borrowAs borrowAs
  cloneOnto_eq := SliceItem.cloneOnto_eq _ _ cloneOnto_eq
  intoOwned_borrowAs := SliceItem.intoOwned_borrowAs _ _ intoOwned_borrowAs

end ItemLaws

namespace Wrapped

theorem iterEqSyms_eq (xs ys : List Nat) : iterEqSyms xs ys = listEq (· == ·) xs ys := by
  fun_induction iterEqSyms xs ys <;> simp_all [listEq]

theorem iterCmpSyms_eq (xs ys : List Nat) : iterCmpSyms xs ys = lexCmp compare xs ys := by
  fun_induction iterCmpSyms xs ys <;> simp [lexCmp, *]

theorem listEq_length (xs ys : List Nat) (h : listEq (· == ·) xs ys = true) : xs.length = ys.length := by
  induction xs generalizing ys with
  | nil => cases ys with
    | nil => rfl
    | cons y ys => simp [listEq] at h
  | cons x xs ih =>
    cases ys with
    | nil => simp [listEq] at h
    | cons y ys =>
      simp only [listEq, Bool.and_eq_true] at h
      simp [ih ys h.2]

theorem sliceEq_eq (xs ys : List Nat) : sliceEq xs ys = listEq (· == ·) xs ys := by
  induction xs generalizing ys with
  | nil => cases ys <;> rfl
  | cons x xs ih =>
    cases ys with
    | nil => rfl
    | cons y ys =>
      rw [listEq, ← ih]
      by_cases h : xs.length = ys.length <;> simp [sliceEq, h]

theorem compare_succ (n m : Nat) : compare (n + 1) (m + 1) = compare n m := by
  simp only [compare, compareOfLessAndEq, Nat.add_lt_add_iff_right, Nat.add_right_cancel_iff]

theorem sliceCmp_eq (xs ys : List Nat) : sliceCmp xs ys = lexCmp compare xs ys := by
  induction xs generalizing ys with
  | nil => cases ys <;> rfl
  | cons x xs ih =>
    cases ys with
    | nil => rfl
    | cons y ys =>
      rw [lexCmp, ← ih]
      simp only [sliceCmp, List.zip_cons_cons, List.foldr_cons, List.length_cons, Ordering.then_assoc, compare_succ]
      cases compare x y <;> rfl

theorem intoOwned_eq_decode (a : Wrapped) : a.intoOwned = a.decode := by cases a <;> rfl

/-- `clear` then `extend`: the target's previous contents are irrelevant -/
theorem cloneOnto_eq_decode (a : Wrapped) (t : List Nat) : a.cloneOnto t = a.decode := by
  cases a with
  | encoded c bytes lo hi =>
    simp only [cloneOnto, decode, vecClear, vecExtend, List.nil_append]
    cases Huff.decodeRange c bytes lo hi <;> rfl
  | raw syms => simp [cloneOnto, decode, vecClear, vecExtend]

end Wrapped

namespace WrappedOK

theorem some_intoOwned (a : WrappedOK) : some a.intoOwned = a.1.decode := by
  rw [intoOwned, Option.some_get, Wrapped.intoOwned_eq_decode]

theorem some_cloneOnto (a : WrappedOK) (t : List Nat) : some (a.cloneOnto t) = a.1.decode := by
  rw [cloneOnto, Option.some_get, Wrapped.cloneOnto_eq_decode]

theorem ofWrapped?_of_decode (w : Wrapped) (xs : List Nat) (h : w.decode = some xs) :
    ∃ a : WrappedOK, ofWrapped? w = some a ∧ a.1 = w ∧ a.intoOwned = xs := by
  have hs : w.decode.isSome := by rw [h]; rfl
  refine ⟨⟨w, hs⟩, by simp only [ofWrapped?, hs, dite_true], rfl, ?_⟩
  exact Option.some.inj ((some_intoOwned (⟨w, hs⟩ : WrappedOK)).trans h)

end WrappedOK

/-! ### items whose reads may panic enter the nested universe through their well-formed states -/

/- `WrappedOK` — a Huffman item whose decoding does not panic, e.g. every item issued at a valid index of a
consistent container (`Huff.Container.item_decode`, `LawfulRegion.valid_reads`), and every borrowed one — is
defined in Model/ItemOps.lean (the driver uses it): `{ a : Wrapped // a.decode.isSome }`. The operations below
(`getD []`) are not `WrappedOK.intoOwned` / `WrappedOK.cloneOnto` of the model (`.get` with the `isSome` proof); both
equal the partial operation of `Wrapped` (`C14.wrappedOK_ops`, `WrappedOK.ops_eq'`). -/

instance : ItemLaws WrappedOK (List Nat) where
  intoOwned a := a.1.intoOwned.getD []
  cloneOnto a t := (a.1.cloneOnto t).getD []
  borrowAs o := ⟨Wrapped.borrowAs o, rfl⟩
  cloneOnto_eq a t := by rw [Wrapped.cloneOnto_eq_decode, Wrapped.intoOwned_eq_decode]
  intoOwned_borrowAs _ := rfl

/-- a `ReadSlice` over base elements whose iteration does not panic (every `WF` one, `ReadSlice.wf_iter`) -/
def ReadSliceOK (R Oc V : Type) {I : Type} [Region R V I] [IdxCont Oc I] : Type :=
  { x : ReadSlice R Oc V // x.iter.isSome }

instance {R Oc V I : Type} [Region R V I] [IdxCont Oc I] : ItemLaws (ReadSliceOK R Oc V) (List V) where
  intoOwned x := x.1.intoOwned.getD []
  cloneOnto x t := (x.1.cloneOnto t).getD []
  borrowAs o := ⟨ReadSlice.borrowed o, rfl⟩
  cloneOnto_eq x t := by
    show (x.1.cloneOnto t).getD [] = x.1.iter.getD []
    rw [ReadSlice.cloneOnto_eq_iter]
  intoOwned_borrowAs _ := rfl

namespace Huff.Container

theorem item?_decode (h : Container) (i : Nat × Nat) : (h.item? i).bind Wrapped.decode = h.index i := by
  rcases hcd : h.coded with _ | ⟨c, bytes, bits⟩
  · simp only [item?, Container.index_eq_of_raw hcd, hcd]
    split <;> rfl
  · simp only [item?, Container.index_eq_of_coded hcd, hcd, Option.bind_some, Wrapped.decode]

theorem item?_eq_item (h : Container) (i : Nat × Nat) (hv : h.Valid i) : h.item? i = some (h.item i) := by
  rcases hcd : h.coded with _ | ⟨c, bytes, bits⟩
  · have := (Container.valid_raw hcd i).1 hv
    simp only [item?, item, hcd, this, and_self, if_true]
  · simp only [item?, item, hcd]

theorem item_decode (h : Container) (i : Nat × Nat) (hv : h.Valid i) : (h.item i).decode = h.index i := by
  rw [← item?_decode, item?_eq_item h i hv, Option.bind_some]

theorem item_decodes (h : Container) (i : Nat × Nat) (hi : Inv h) (hv : Valid h i) :
    ∃ xs, index h i = some xs ∧ (h.item i).decode = some xs := by
  obtain ⟨xs, hxs⟩ := LawfulRegion.valid_reads h i hi hv
  exact ⟨xs, hxs, (item_decode h i hv).trans hxs⟩

theorem item_of_push (h : Container) (v : List Nat) (hi : Inv h) (ha : Accepts h v) :
    ∃ h' i, push h v = some (h', i) ∧ Inv h' ∧ Valid h' i ∧ (h'.item i).decode = some v := by
  obtain ⟨h', i, hp, hr⟩ := Container.push_ok h v hi ha
  obtain ⟨hi', hv', -⟩ := Container.push_post hp hi
  exact ⟨h', i, hp, hi', hv', (item_decode h' i hv').trans hr⟩

end Huff.Container

/-! ### Concrete containers used by the `example`s of C14b / C15b (satisfiability of hypotheses) -/
namespace ItemsEx2
open Huff

def rawC : Container := ⟨none, [1, 2, 2, 3, 2, 2], [(1, 1), (2, 4), (3, 1)]⟩
theorem rawC_push : (push (Region.default : Container) [1, 2, 2]).bind (fun p => push p.1 [3, 2, 2]) =
    some (rawC, (3, 6)) := rfl
theorem rawC_inv : Inv rawC := Container.inv_raw rfl
theorem rawC_valid (i : Nat × Nat) (h : i.1 ≤ i.2 ∧ i.2 ≤ 6) : Valid rawC i :=
  (Container.valid_raw (h := rawC) rfl i).2 h

/-- the code `merge_regions` builds from the statistics of `rawC`: `2 ↦ 0`, `3 ↦ 10`, `1 ↦ 11` -/
def codeC : Code := createFrom [(1, 1), (2, 4), (3, 1)]
theorem codeC_merge : (Container.merge [rawC]).coded = some (codeC, [], 0) := rfl
theorem codeC_ok : EncOK codeC ∧ TableOK codeC :=
  ⟨encOK_of_forall _ (by decide), createFrom_tableOK _ (by decide) (by decide)⟩

/-- coded mode: the store after `push [2, 2]; push [1, 2, 2]` on the merged container
(bits `00 11 0 0`, i.e. the byte `0b00110000`) -/
def codedC : Container := ⟨some (codeC, [48], 6), [], [(1, 1), (2, 4)]⟩
theorem codedC_inv : Inv codedC :=
  (Container.inv_coded (h := codedC) rfl).2 ⟨codeC_ok.1, codeC_ok.2, by unfold WFStore; decide⟩
theorem codedC_valid₁ : Valid codedC (0, 2) :=
  (Container.valid_coded (h := codedC) rfl _).2 ⟨[2, 2], by decide, by decide⟩
theorem codedC_valid₂ : Valid codedC (2, 6) :=
  (Container.valid_coded (h := codedC) rfl _).2 ⟨[1, 2, 2], by decide, by decide⟩
theorem codedC_index₁ : index codedC (0, 2) = some [2, 2] :=
  C06.index_of_denotes codedC codeC [48] 6 (0, 2) [2, 2] rfl codeC_ok.2 (by unfold WFStore; decide)
    ⟨by decide, by decide⟩
theorem codedC_index₂ : index codedC (2, 6) = some [1, 2, 2] :=
  C06.index_of_denotes codedC codeC [48] 6 (2, 6) [1, 2, 2] rfl codeC_ok.2 (by unfold WFStore; decide)
    ⟨by decide, by decide⟩

/-- another code (`1 ↦ 0`, `2 ↦ 10`, `3 ↦ 11`) and the store after `push [1, 2, 2]; push [2, 2]`
(bits `0 10 10 10 10`, bytes `0b01010101 0b0…`) -/
def codeD : Code := createFrom [(1, 3), (2, 1), (3, 2)]
theorem codeD_ok : EncOK codeD ∧ TableOK codeD :=
  ⟨encOK_of_forall _ (by decide), createFrom_tableOK _ (by decide) (by decide)⟩
def codedD : Container := ⟨some (codeD, [85, 0], 9), [], [(1, 1), (2, 4)]⟩
theorem codedD_inv : Inv codedD :=
  (Container.inv_coded (h := codedD) rfl).2 ⟨codeD_ok.1, codeD_ok.2, by unfold WFStore; decide⟩
theorem codedD_valid₁ : Valid codedD (0, 5) :=
  (Container.valid_coded (h := codedD) rfl _).2 ⟨[1, 2, 2], by decide, by decide⟩
theorem codedD_valid₂ : Valid codedD (5, 9) :=
  (Container.valid_coded (h := codedD) rfl _).2 ⟨[2, 2], by decide, by decide⟩
theorem codedD_index₁ : index codedD (0, 5) = some [1, 2, 2] :=
  C06.index_of_denotes codedD codeD [85, 0] 9 (0, 5) [1, 2, 2] rfl codeD_ok.2 (by unfold WFStore; decide)
    ⟨by decide, by decide⟩
theorem codedD_index₂ : index codedD (5, 9) = some [2, 2] :=
  C06.index_of_denotes codedD codeD [85, 0] 9 (5, 9) [2, 2] rfl codeD_ok.2 (by unfold WFStore; decide)
    ⟨by decide, by decide⟩

end ItemsEx2

end FC
