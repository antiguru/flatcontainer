import FlatModel.Model.Coded
import FlatModel.Proofs.Region
import FlatModel.Proofs.Consec
/-! Helper lemmas for the dictionary codec (C07): one push; the heavy-hitter summary as far as it goes without weights
(sorting, which keys `consolidate` keeps, what `encode` records and `new_from` merges while nothing is compacted);
`BytesMap`; the `new_from` fold invariant; which strings get a tag; the `LawfulRegion` instance.
The weights of the summary are the subject of Proofs/MisraGries.lean, which builds on this file.

This file imports no Mathlib and must not come to import Proofs/MisraGries.lean: statements here and in Props/C07.lean
use `List.sum`, and with Mathlib in scope `List.sum` finds another `Zero ℕ` instance, so they would elaborate to
different terms. Hence whatever the region laws and Props/C07.lean need of the
summary is proved here without `cnt` and `wsum`, whose definitions sit behind that import. -/
namespace FC.Codec

/-! ### one push (only needs `WF` as a hypothesis) -/

theorem Dict.decodeBytes_congr {d d' : Dict} (h : d'.decode = d.decode) (s : Bytes) :
    d'.decodeBytes s = d.decodeBytes s := by
  unfold Dict.decodeBytes
  rw [h]

/-- the statistics update performed by `encode` -/
def Dict.observe (d : Dict) (b : Bytes) : Dict :=
  match b with
  | [] => d
  | t :: _ => { d with mg := d.mg.update b 1, seen := if d.seen.contains t.toNat then d.seen else t.toNat :: d.seen }

theorem Dict.observe_decode (d : Dict) (b : Bytes) : (d.observe b).decode = d.decode := by
  cases b <;> rfl
theorem Dict.observe_encode (d : Dict) (b : Bytes) : (d.observe b).encode = d.encode := by
  cases b <;> rfl
theorem Dict.observe_lookup (d : Dict) (b s : Bytes) : (d.observe b).lookup s = d.lookup s := by
  cases b <;> rfl

/-- what `encode` stores -/
def Dict.stored (d : Dict) (b : Bytes) : Option Bytes :=
  match d.lookup b with
  | some t => some [UInt8.ofNat t]
  | none =>
    match b with
    | [] => some b
    | t :: _ => if (d.decode.get t.toNat).isSome then none else some b

theorem Dict.encode'_eq (d : Dict) (b : Bytes) :
    d.encode' b = (d.stored b).map fun s => (s, d.observe b) := by
  unfold Dict.encode' Dict.stored Dict.observe
  cases d.lookup b with
  | some t => rfl
  | none =>
    cases b with
    | nil => rfl
    | cons t tl =>
      by_cases hg : (d.decode.get t.toNat).isSome = true
      · simp only [hg, if_true, Option.map_none]
      · simp only [hg]; rfl

theorem Dict.encode'_some {d d' : Dict} {b s : Bytes} (h : d.encode' b = some (s, d')) :
    d.stored b = some s ∧ d' = d.observe b := by
  rw [Dict.encode'_eq] at h
  obtain ⟨s0, hs, h⟩ := Option.map_eq_some_iff.1 h
  cases h
  exact ⟨hs, rfl⟩

theorem Dict.stored_none_iff (d : Dict) (b : Bytes) :
    d.stored b = none ↔ (d.lookup b = none ∧ ∃ t rest, b = t :: rest ∧ (d.decode.get t.toNat).isSome) := by
  unfold Dict.stored
  split
  · next t hl => simp [hl]
  · next hl => cases b <;> simp [hl, Option.isSome_iff_ne_none]

theorem Dict.decode_stored {d : Dict} (hw : d.WF) {b s : Bytes} (h : d.stored b = some s) :
    d.decodeBytes s = b := by
  unfold Dict.stored at h
  split at h
  · next t hl =>
    cases h
    obtain ⟨hg, _, ht⟩ := hw.hit b t hl
    simp only [Dict.decodeBytes, UInt8.toNat_ofNat_of_lt' ht, hg]
  · split at h
    · cases h; rfl
    · next t tl =>
      split at h
      · cases h
      · next hg =>
        cases h
        simp only [Dict.decodeBytes, Option.not_isSome_iff_eq_none.1 hg]

/-! ### region level: what one push stores (no invariant needed) -/

theorem Dict.stored_congr {d d' : Dict} (he : d.encode = d'.encode) (hd : d.decode = d'.decode) (b : Bytes) :
    d.stored b = d'.stored b := by
  simp only [Dict.stored, Dict.lookup, he, hd]

theorem Region.push_eq (r : Region) (b : Bytes) : Region.push r b = (r.codec.stored b).map fun s =>
    (⟨r.inner ++ s, r.codec.observe b⟩, (r.inner.length, r.inner.length + s.length)) := by
  rw [Region.push, Dict.encode'_eq]
  cases r.codec.stored b <;> rfl

theorem Region.push_some {r r' : Region} {b : Bytes} {i : Nat × Nat} (h : Region.push r b = some (r', i)) :
    ∃ s, r.codec.stored b = some s ∧ r' = ⟨r.inner ++ s, r.codec.observe b⟩ ∧
      i = (r.inner.length, r.inner.length + s.length) := by
  rw [Region.push_eq] at h
  obtain ⟨s, hs, h⟩ := Option.map_eq_some_iff.1 h
  cases h
  exact ⟨s, hs, rfl, rfl⟩

theorem Region.push_hit {d : Dict} {b : Bytes} {t : Nat} (hl : d.lookup b = some t) (inner : Bytes) :
    Region.push ⟨inner, d⟩ b = some (⟨inner ++ [UInt8.ofNat t], d.observe b⟩, (inner.length, inner.length + 1)) := by
  simp only [Region.push_eq, Dict.stored, hl]
  rfl

theorem Region.index_eq_of_le {r : Region} {i : Nat × Nat} (h : i.1 ≤ i.2 ∧ i.2 ≤ r.inner.length) :
    Region.index r i = some (r.codec.decodeBytes ((r.inner.drop i.1).take (i.2 - i.1))) := by
  unfold Region.index
  rw [if_pos h]

/-- the summary built by `new_from` from the sources' summaries -/
def mergedMG (srcs : List Dict) : MG :=
  srcs.foldl (fun (m : MG) s => s.mg.done.foldl (fun m (b, c) => m.update b c) m) ⟨[]⟩

theorem insertBy_perm {α} (lt : α → α → Bool) (x : α) (l : List α) : (insertBy lt x l).Perm (x :: l) := by
  induction l with
  | nil => exact List.Perm.refl _
  | cons y ys ih =>
    unfold insertBy
    split
    · exact ((List.Perm.cons y ih).trans (List.Perm.swap x y ys))
    · exact List.Perm.refl _

theorem sortBy_perm {α} (lt : α → α → Bool) (l : List α) : (sortBy lt l).Perm l := by
  unfold sortBy
  induction l with
  | nil => exact List.Perm.refl _
  | cons x l ih =>
    exact (insertBy_perm lt x _).trans (List.Perm.cons x ih)

theorem mem_sortBy {α} (lt : α → α → Bool) (y : α) (l : List α) : y ∈ sortBy lt l ↔ y ∈ l :=
  (sortBy_perm lt l).mem_iff

def consStep (acc : List (Bytes × Nat)) (kc : Bytes × Nat) : List (Bytes × Nat) :=
  match kc with
  | (k, c) =>
    match acc.getLast? with
    | some (k', c') => if k' == k then acc.dropLast ++ [(k, c' + c)] else acc ++ [(k, c)]
    | none => [(k, c)]

theorem consolidate_eq (l : List (Bytes × Nat)) :
    consolidate l = ((sortBy (fun x y => bytesLt x.1 y.1) l).foldl consStep []).filter (·.2 != 0) := rfl

theorem consStep_nil (kc : Bytes × Nat) : consStep [] kc = [kc] := rfl

theorem consStep_concat (ys : List (Bytes × Nat)) (k' : Bytes) (c' : Nat) (k : Bytes) (c : Nat) :
    consStep (ys ++ [(k', c')]) (k, c) =
      if k' = k then ys ++ [(k, c' + c)] else ys ++ [(k', c'), (k, c)] := by
  unfold consStep
  simp only [List.getLast?_concat, List.dropLast_concat, beq_iff_eq, List.append_assoc, List.cons_append,
    List.nil_append]

theorem list_nil_or_concat {α} (l : List α) : l = [] ∨ ∃ ys y, l = ys ++ [y] := by
  rcases List.eq_nil_or_concat l with h | ⟨ys, y, h⟩
  · exact Or.inl h
  · exact Or.inr ⟨ys, y, by rw [h, List.concat_eq_append]⟩

theorem consolidate_ne_zero (l : List (Bytes × Nat)) : ∀ e ∈ consolidate l, e.2 ≠ 0 := by
  intro e he
  rw [consolidate_eq] at he
  simpa using (List.mem_filter.1 he).2

/-- `k` holds a non-zero count in `l`. With it, "which keys `consolidate` keeps" is settled here by the keys alone
(`mem_consolidate_key_iff`). Proofs/MisraGries.lean has the sharper `mem_consolidate_iff`, with the count, but it speaks
of `cnt` and is out of reach of this file and of Props/C07.lean (see the head of the file), where `Dict.wf_newFrom`,
`mergedMG_complete` and `C07.all_pushed_tagged` need the fact. -/
def Live (l : List (Bytes × Nat)) (k : Bytes) : Prop := ∃ c, c ≠ 0 ∧ (k, c) ∈ l

theorem live_nil {k : Bytes} : Live [] k ↔ False := by simp [Live]

theorem live_cons {e : Bytes × Nat} {l : List (Bytes × Nat)} {k : Bytes} :
    Live (e :: l) k ↔ (e.1 = k ∧ e.2 ≠ 0) ∨ Live l k := by
  obtain ⟨k', c'⟩ := e
  constructor
  · rintro ⟨c, hc, h⟩
    rcases List.mem_cons.1 h with h | h
    · cases h
      exact Or.inl ⟨rfl, hc⟩
    · exact Or.inr ⟨c, hc, h⟩
  · rintro (⟨rfl, hc⟩ | ⟨c, hc, h⟩)
    · exact ⟨c', hc, List.mem_cons_self ..⟩
    · exact ⟨c, hc, List.mem_cons_of_mem _ h⟩

theorem live_append {l l' : List (Bytes × Nat)} {k : Bytes} : Live (l ++ l') k ↔ Live l k ∨ Live l' k := by
  induction l with
  | nil => rw [List.nil_append, live_nil, false_or]
  | cons e l ih => rw [List.cons_append, live_cons, live_cons, ih, or_assoc]

theorem consStep_live (acc : List (Bytes × Nat)) (kc : Bytes × Nat) (k : Bytes) :
    Live (consStep acc kc) k ↔ Live acc k ∨ Live [kc] k := by
  obtain ⟨k₁, c₁⟩ := kc
  rcases list_nil_or_concat acc with rfl | ⟨ys, ⟨k', c'⟩, rfl⟩
  · rw [consStep_nil, ← live_append, List.nil_append]
  · rw [consStep_concat]
    split
    · rename_i hk
      subst hk
      have hadd : c' + c₁ ≠ 0 ↔ c' ≠ 0 ∨ c₁ ≠ 0 := by omega
      simp only [live_append, live_cons, live_nil, or_false, hadd, and_or_left, or_assoc]
    · rw [List.append_cons, live_append]

theorem consStep_foldl_live (k : Bytes) : ∀ (l acc : List (Bytes × Nat)),
    Live (l.foldl consStep acc) k ↔ Live acc k ∨ Live l k
  | [], acc => by rw [List.foldl_nil, live_nil, or_false]
  | kc :: l, acc => by
    rw [List.foldl_cons, consStep_foldl_live k l, consStep_live, or_assoc, ← live_append, List.singleton_append]

theorem mem_consolidate_key_iff (l : List (Bytes × Nat)) (k : Bytes) : (∃ c, (k, c) ∈ consolidate l) ↔ Live l k := by
  have h := consStep_foldl_live k (sortBy (fun x y => bytesLt x.1 y.1) l) []
  rw [live_nil, false_or] at h
  simp only [Live, mem_sortBy] at h ⊢
  rw [← h, consolidate_eq]
  simp [and_comm]

theorem MG.mem_done_key_iff (m : MG) (k : Bytes) : (∃ c, (k, c) ∈ m.done) ↔ Live m.inner k := by
  simp only [MG.done, mem_sortBy, mem_consolidate_key_iff]

/-! ### every key that comes out was put in -/

def Keys (P : Bytes → Prop) (l : List (Bytes × Nat)) : Prop := ∀ e ∈ l, P e.1

theorem Keys.nil {P} : Keys P [] := fun _ h => by cases h

theorem Keys.sortBy {P} (lt) {l : List (Bytes × Nat)} (h : Keys P l) : Keys P (sortBy lt l) :=
  fun e he => h e ((mem_sortBy lt e l).1 he)

theorem Keys.append {P} {l l' : List (Bytes × Nat)} (h : Keys P l) (h' : Keys P l') : Keys P (l ++ l') :=
  List.forall_mem_append.2 ⟨h, h'⟩

theorem Keys.consolidate {P} {l : List (Bytes × Nat)} (h : Keys P l) : Keys P (consolidate l) := by
  intro e he
  obtain ⟨c, _, hm⟩ := (mem_consolidate_key_iff l e.1).1 ⟨e.2, he⟩
  exact h (e.1, c) hm

theorem Keys.done {P} {m : MG} (h : Keys P m.inner) : Keys P m.done :=
  Keys.sortBy _ (Keys.consolidate h)

-- `MG.tidy` is unfolded by hand: the lemmas that say what it returns (`MG.tidyK_of_le`, `MG.tidyK_of_ranked`) are in
-- Proofs/MisraGries.lean, which imports this file
theorem Keys.tidy {P} {m : MG} (h : Keys P m.inner) : Keys P m.tidy.inner := by
  have hl := Keys.sortBy (fun x y => decide (y.2 < x.2)) (Keys.consolidate h)
  unfold MG.tidy
  dsimp only
  split
  · intro e he
    have he1 := List.mem_reverse.1 he
    have he2 := (List.dropWhile_sublist _).subset he1
    have he3 := List.mem_reverse.1 he2
    obtain ⟨⟨b, w⟩, hbw, rfl⟩ := List.mem_map.1 he3
    exact hl (b, w) (List.mem_of_mem_take hbw)
  · exact hl

theorem Keys.update {P} {m : MG} {b : Bytes} {c : Nat} (h : Keys P m.inner) (hb : P b) :
    Keys P (m.update b c).inner := by
  have h' : Keys P (m.inner ++ [(b, c)]) := Keys.append h (List.forall_mem_singleton.2 hb)
  unfold MG.update
  dsimp only
  split
  · exact Keys.tidy (m := ⟨m.inner ++ [(b, c)]⟩) h'
  · exact h'

theorem Keys.mergedMG {P} {srcs : List Dict} (h : ∀ s ∈ srcs, Keys P s.mg.inner) :
    Keys P (Codec.mergedMG srcs).inner :=
  List.foldlRecOn (motive := fun m : MG => Keys P m.inner) srcs _ Keys.nil fun _ hm s hs =>
    List.foldlRecOn (motive := fun m : MG => Keys P m.inner) _ _ hm fun _ hm bc hbc =>
      Keys.update hm (Keys.done (h s hs) bc hbc)

theorem MG.foldl_of_lt {cap : Nat} {f : MG → Bytes × Nat → MG}
    (hf : ∀ (m : MG) (e : Bytes × Nat), m.inner.length + 1 < cap → f m e = ⟨m.inner ++ [e]⟩) :
    ∀ (l : List (Bytes × Nat)) (m : MG), m.inner.length + l.length < cap → l.foldl f m = ⟨m.inner ++ l⟩
  | [], m, _ => by simp
  | e :: l, m, h => by
    simp only [List.length_cons] at h
    rw [List.foldl_cons, hf m e (by omega),
      MG.foldl_of_lt hf l _ (by simp only [List.length_append, List.length_singleton]; omega)]
    simp

/-- below the capacity `update` only appends. (The `MG.cap` instance of `MG.updateK_of_lt`, Proofs/MisraGries.lean; stated
apart because this file must not import that one.) -/
theorem MG.update_of_lt {m : MG} {b : Bytes} {c : Nat} (h : m.inner.length + 1 < MG.cap) :
    m.update b c = ⟨m.inner ++ [(b, c)]⟩ := by
  rw [MG.update, if_neg]
  simp only [List.length_append, List.length_singleton, beq_iff_eq]
  omega

theorem mergedMG_eq_foldl (srcs : List Dict) :
    mergedMG srcs = (srcs.map (·.mg.done)).flatten.foldl (fun m (b, c) => m.update b c) ⟨[]⟩ := by
  rw [mergedMG, List.foldl_flatten, List.foldl_map]

theorem mergedMG_of_lt (srcs : List Dict) (h : (srcs.map (·.mg.done.length)).sum < MG.cap) :
    (mergedMG srcs).inner = (srcs.map (·.mg.done)).flatten := by
  rw [mergedMG_eq_foldl, MG.foldl_of_lt (fun m e h => MG.update_of_lt h) _ _
    (by simpa [List.length_flatten, Function.comp_def] using h)]
  rfl

theorem mergedMG_complete (srcs : List Dict) (h : (srcs.map (·.mg.done.length)).sum < MG.cap) :
    ∀ s ∈ srcs, ∀ e ∈ s.mg.done, ∃ c, (e.1, c) ∈ (mergedMG srcs).done := by
  intro s hs e he
  refine (MG.mem_done_key_iff _ _).2 ⟨e.2, consolidate_ne_zero _ e ((mem_sortBy _ _ _).1 he), ?_⟩
  rw [mergedMG_of_lt srcs h]
  exact List.mem_flatten.2 ⟨_, List.mem_map.2 ⟨s, hs, rfl⟩, he⟩

theorem Dict.observe_foldl_mg_eq_foldl_update : ∀ (bs : List Bytes) (d : Dict),
    (bs.foldl Dict.observe d).mg = ((bs.filter (· ≠ [])).map (·, 1)).foldl (fun m (b, c) => m.update b c) d.mg
  | [], d => rfl
  | [] :: bs, d => by
    rw [List.foldl_cons, show d.observe [] = d from rfl, Dict.observe_foldl_mg_eq_foldl_update bs d]
    simp
  | (t :: tl) :: bs, d => by
    rw [List.foldl_cons, Dict.observe_foldl_mg_eq_foldl_update bs]
    simp
    rfl

theorem Dict.observe_foldl_mg (bs : List Bytes) (d : Dict) (h : d.mg.inner.length + bs.length < MG.cap) :
    (bs.foldl Dict.observe d).mg.inner = d.mg.inner ++ (bs.filter (· ≠ [])).map (·, 1) := by
  rw [Dict.observe_foldl_mg_eq_foldl_update, MG.foldl_of_lt (fun m e h => MG.update_of_lt h) _ _ (by
    have := List.length_filter_le (· ≠ []) bs
    simp only [List.length_map]
    omega)]

structure BytesMap.Ok (m : BytesMap) : Prop where
  last : m.offsets.getLast? = some m.bytes.length
  bound : ∀ x ∈ m.offsets, x ≤ m.bytes.length

theorem BytesMap.ok_default : BytesMap.default.Ok := ⟨rfl, List.forall_mem_singleton.2 (Nat.le_refl _)⟩

theorem BytesMap.push_eq (m : BytesMap) (e : Option Bytes) :
    m.push e = ⟨m.offsets ++ [(m.bytes ++ e.getD []).length], m.bytes ++ e.getD []⟩ := by
  cases e <;> simp [BytesMap.push]

theorem BytesMap.ok_push {m : BytesMap} (h : m.Ok) (e : Option Bytes) : (m.push e).Ok := by
  rw [BytesMap.push_eq]
  refine ⟨List.getLast?_concat, List.forall_mem_append.2 ⟨fun x hx => ?_, List.forall_mem_singleton.2 (Nat.le_refl _)⟩⟩
  have := h.bound x hx
  simp only [List.length_append]; omega

theorem BytesMap.get_eq (m : BytesMap) (i : Nat) :
    m.get i = if i + 1 < m.offsets.length then
      (if m.offsets[i]?.getD 0 < m.offsets[i+1]?.getD 0 then
        some ((m.bytes.drop (m.offsets[i]?.getD 0)).take (m.offsets[i+1]?.getD 0 - m.offsets[i]?.getD 0))
      else none) else none := by
  unfold BytesMap.get
  simp only [List.getElem!_eq_getElem?_getD]
  rfl

theorem BytesMap.get_of_ge {m : BytesMap} {i : Nat} (hi : m.offsets.length ≤ i + 1) : m.get i = none := by
  rw [BytesMap.get_eq, if_neg (by omega)]

theorem BytesMap.lt_of_get_some {m : BytesMap} {i : Nat} {b : Bytes} (h : m.get i = some b) :
    i + 1 < m.offsets.length :=
  Nat.lt_of_not_le fun hi => by rw [BytesMap.get_of_ge hi] at h; cases h

theorem BytesMap.ne_nil_of_get_some {m : BytesMap} (hm : m.Ok) {i : Nat} {b : Bytes} (h : m.get i = some b) :
    b ≠ [] := by
  have hi := BytesMap.lt_of_get_some h
  rw [BytesMap.get_eq, if_pos hi] at h
  split at h
  · rename_i hlt
    simp only [Option.some.injEq] at h
    subst h
    have hb : m.offsets[i+1]?.getD 0 ≤ m.bytes.length := by
      rw [List.getElem?_eq_getElem hi]
      exact hm.bound _ (List.getElem_mem hi)
    intro hnil
    have := congrArg List.length hnil
    simp only [List.length_take, List.length_drop, List.length_nil] at this
    omega
  · cases h

@[simp] theorem BytesMap.length_push (m : BytesMap) (e : Option Bytes) :
    (m.push e).offsets.length = m.offsets.length + 1 := by
  rw [BytesMap.push_eq]
  simp

theorem BytesMap.get_push {m : BytesMap} (hm : m.Ok) (e : Option Bytes) (i : Nat) :
    (m.push e).get i = if i + 1 = m.offsets.length then e.filter (· ≠ []) else m.get i := by
  rw [BytesMap.push_eq, BytesMap.get_eq, BytesMap.get_eq]
  rw [List.length_append, List.length_singleton]
  rcases Nat.lt_trichotomy (i + 1) m.offsets.length with hi | hi | hi
  · have hb : m.offsets[i+1]?.getD 0 ≤ m.bytes.length := by
      rw [List.getElem?_eq_getElem hi]
      exact hm.bound _ (List.getElem_mem hi)
    rw [List.getElem?_append_left (by omega), List.getElem?_append_left hi, take_drop_append_left _ _ _ _ hb,
      if_pos (show i + 1 < m.offsets.length + 1 by omega), if_neg (show ¬ i + 1 = m.offsets.length by omega), if_pos hi]
  · have h0 : m.offsets[i]? = some m.bytes.length := by
      rw [← hm.last, List.getLast?_eq_getElem?]
      congr 1
      omega
    rw [List.getElem?_append_left (by omega), h0, List.getElem?_append_right (by omega),
      show i + 1 - m.offsets.length = 0 by omega, if_pos (show i + 1 < m.offsets.length + 1 by omega), if_pos hi]
    rcases e with _ | _ | ⟨a, x⟩ <;> simp [Option.filter]
  · rw [if_neg (show ¬ i + 1 < m.offsets.length + 1 by omega), if_neg (show ¬ i + 1 = m.offsets.length by omega),
      if_neg (show ¬ i + 1 < m.offsets.length by omega)]

theorem BytesMap.get_push_of_some {m : BytesMap} (hm : m.Ok) (e : Option Bytes) {i : Nat} {b : Bytes}
    (h : m.get i = some b) : (m.push e).get i = some b := by
  rw [BytesMap.get_push hm, if_neg (by have := BytesMap.lt_of_get_some h; omega), h]

abbrev NFAcc := List (Bytes × Nat) × BytesMap × List (Bytes × Nat)

/-- one iteration of `for tag in 0..=255` -/
def nfStep (seen : Nat → Bool) (acc : NFAcc) (tag : Nat) : NFAcc :=
  let (enc, dec, rest) := acc
  if seen tag then (enc, dec.push none, rest)
  else match rest with
    | (b, _) :: rest' => ((b, tag) :: enc.filter (·.1 != b), dec.push (some b), rest')
    | [] => (enc, dec, rest)

def nfFold (srcs : List Dict) (n : Nat) : NFAcc :=
  (List.range n).foldl (nfStep fun t => srcs.any fun s => s.seen.contains t)
    ([], BytesMap.default, (mergedMG srcs).done)

theorem Dict.newFrom_eq (srcs : List Dict) :
    Dict.newFrom srcs = ⟨(nfFold srcs 256).1, (nfFold srcs 256).2.1, ⟨[]⟩, []⟩ := by
  unfold Dict.newFrom nfFold mergedMG
  -- with the literal `List.range 256` in place, `rfl` would evaluate the 256 steps of the fold
  generalize List.range 256 = l
  rfl

theorem nfFold_succ (srcs : List Dict) (n : Nat) :
    nfFold srcs (n + 1) = nfStep (fun t => srcs.any fun s => s.seen.contains t) (nfFold srcs n) n := by
  unfold nfFold
  rw [List.range_succ, List.foldl_append]
  rfl

/-- the loop invariant after `n` tags. Note the offsets fall behind `n` once the heavy hitters are
exhausted and an unseen tag pushes nothing (as in the crate); from then on only `None` is pushed.
(`len_le` feeds no other field and no user: it only records that the offsets never run ahead of the tags.) -/
structure NFInv (hh : List (Bytes × Nat)) (n : Nat) (acc : NFAcc) : Prop where
  ok : acc.2.1.Ok
  len_le : acc.2.1.offsets.length ≤ n + 1
  len_eq : acc.2.2 ≠ [] → acc.2.1.offsets.length = n + 1
  rest : ∀ e ∈ acc.2.2, e ∈ hh
  enc : ∀ e ∈ acc.1, e.2 < n ∧ (∃ c, (e.1, c) ∈ hh) ∧ (e.1 ≠ [] → acc.2.1.get e.2 = some e.1)

theorem NFInv.intro {hh : List (Bytes × Nat)} {n : Nat} {enc : List (Bytes × Nat)} {dec : BytesMap}
    {rest : List (Bytes × Nat)} (ok : dec.Ok) (len_le : dec.offsets.length ≤ n + 1)
    (len_eq : rest ≠ [] → dec.offsets.length = n + 1) (hrest : ∀ e ∈ rest, e ∈ hh)
    (henc : ∀ e ∈ enc, e.2 < n ∧ (∃ c, (e.1, c) ∈ hh) ∧ (e.1 ≠ [] → dec.get e.2 = some e.1)) :
    NFInv hh n (enc, dec, rest) := ⟨ok, len_le, len_eq, hrest, henc⟩

theorem NFInv.init (hh : List (Bytes × Nat)) : NFInv hh 0 ([], BytesMap.default, hh) :=
  ⟨BytesMap.ok_default, Nat.le_refl _, fun _ => rfl, fun _ h => h, fun _ h => by cases h⟩

theorem NFInv.step {hh : List (Bytes × Nat)} {n : Nat} {acc : NFAcc} (seen : Nat → Bool)
    (h : NFInv hh n acc) : NFInv hh (n + 1) (nfStep seen acc n) := by
  obtain ⟨enc, dec, rest⟩ := acc
  obtain ⟨hok, hle, heq, hrest, henc⟩ := h
  dsimp only at hok hle heq hrest henc
  -- the entries of `enc` survive any push and any `filter`
  have hold : ∀ (x : Option Bytes) (p : Bytes × Nat → Bool), ∀ e ∈ enc.filter p,
      e.2 < n + 1 ∧ (∃ c, (e.1, c) ∈ hh) ∧ (e.1 ≠ [] → (dec.push x).get e.2 = some e.1) := fun x p e he =>
    have ⟨h1, h2, h3⟩ := henc e (List.mem_filter.1 he).1
    ⟨by omega, h2, fun hne => BytesMap.get_push_of_some hok _ (h3 hne)⟩
  unfold nfStep
  dsimp only
  split
  · -- the tag is in use as a first byte: `decode.push(None)`
    exact NFInv.intro (BytesMap.ok_push hok _) (by simp; omega) (fun hne => by simp [heq hne]) hrest
      fun e he => hold none (fun _ => true) e (by simpa using he)
  · cases rest with
    | nil =>
      refine NFInv.intro hok (by omega) (fun hne => absurd rfl hne) hrest fun e he => ?_
      obtain ⟨h1, h2, h3⟩ := henc e he
      exact ⟨by omega, h2, h3⟩
    | cons bc rest' =>
      obtain ⟨b, c⟩ := bc
      have hlen : dec.offsets.length = n + 1 := heq (by simp)
      refine NFInv.intro (BytesMap.ok_push hok _) (by simp; omega) (fun _ => by simp [hlen])
        (fun e he => hrest e (List.mem_cons_of_mem _ he)) fun e he => ?_
      rcases List.mem_cons.1 he with rfl | he
      · refine ⟨by simp, ⟨c, hrest _ (List.mem_cons_self ..)⟩, fun hne => ?_⟩
        rw [BytesMap.get_push hok, if_pos (by omega)]
        simpa [Option.filter] using hne
      · exact hold _ _ e he

theorem nfFold_inv (srcs : List Dict) (n : Nat) : NFInv (mergedMG srcs).done n (nfFold srcs n) := by
  induction n with
  | zero => exact NFInv.init _
  | succ n ih => rw [nfFold_succ]; exact NFInv.step _ ih

theorem Dict.lookup_some {d : Dict} {s : Bytes} {t : Nat} (h : d.lookup s = some t) : (s, t) ∈ d.encode := by
  obtain ⟨⟨s', t'⟩, hf, rfl⟩ := Option.map_eq_some_iff.1 h
  have := List.find?_some hf
  simp only [beq_iff_eq] at this
  exact this ▸ List.mem_of_find?_eq_some hf

/-- `new_from` is the 256-step fold, whose invariant holds. With `acc` a variable nothing downstream can unfold
`List.range 256` (unification against `nfFold srcs 256` itself runs out of recursion depth). -/
theorem Dict.newFrom_inv (srcs : List Dict) :
    ∃ acc, Dict.newFrom srcs = ⟨acc.1, acc.2.1, ⟨[]⟩, []⟩ ∧ NFInv (Codec.mergedMG srcs).done 256 acc :=
  ⟨_, Dict.newFrom_eq srcs, nfFold_inv srcs 256⟩

theorem Dict.newFrom_hit (srcs : List Dict) {s : Bytes} {t : Nat} (h : (Dict.newFrom srcs).lookup s = some t) :
    t < 256 ∧ (∃ c, (s, c) ∈ (mergedMG srcs).done) ∧ (s ≠ [] → (Dict.newFrom srcs).decode.get t = some s) := by
  obtain ⟨acc, e, hinv⟩ := Dict.newFrom_inv srcs
  rw [e] at h ⊢
  exact hinv.enc (s, t) (Dict.lookup_some h)

theorem Dict.newFrom_mg (srcs : List Dict) : (Dict.newFrom srcs).mg = ⟨[]⟩ := by
  rw [Dict.newFrom_eq]

theorem Dict.wf_default : Dict.default.WF :=
  ⟨fun s t h => by simp [Dict.lookup, Dict.default] at h, fun e he => by cases he⟩

theorem Dict.wf_newFrom {srcs : List Dict} (hs : ∀ s ∈ srcs, ∀ e ∈ s.mg.inner, e.1 ≠ []) :
    (Dict.newFrom srcs).WF := by
  refine ⟨fun s t h => ?_, fun e he => by rw [Dict.newFrom_mg] at he; cases he⟩
  obtain ⟨h1, ⟨c, h2⟩, h3⟩ := Dict.newFrom_hit srcs h
  have hne : s ≠ [] := Keys.done (Keys.mergedMG (P := fun b => b ≠ []) hs) (s, c) h2
  exact ⟨h3 hne, hne, h1⟩

theorem Dict.wf_observe {d : Dict} (h : d.WF) (b : Bytes) : (d.observe b).WF := by
  refine ⟨fun s t hl => ?_, ?_⟩
  · rw [Dict.observe_lookup] at hl
    rw [Dict.observe_decode]
    exact h.hit s t hl
  · cases b with
    | nil => exact h.stats
    | cons t tl => exact Keys.update (P := fun b => b ≠ []) h.stats (by simp)

theorem Dict.lookup_isSome_iff {d : Dict} {b : Bytes} : (d.lookup b).isSome ↔ ∃ t, (b, t) ∈ d.encode := by
  simp [Dict.lookup, List.find?_isSome]

theorem nfStep_foldl_keys (seen : Nat → Bool) (k : Bytes) : ∀ (l : List Nat) (acc : NFAcc),
    (∃ t, (k, t) ∈ (l.foldl (nfStep seen) acc).1) ↔
      (∃ t, (k, t) ∈ acc.1) ∨ ∃ c, (k, c) ∈ acc.2.2.take (l.filter fun t => !seen t).length
  | [], acc => by simp
  | tag :: l, (enc, dec, rest) => by
    rw [List.foldl_cons, nfStep_foldl_keys seen k l]
    cases hs : seen tag with
    | true => simp [nfStep, hs]
    | false =>
      match rest with
      | [] => simp [nfStep, hs]
      | (b, c) :: rest' => by_cases hk : k = b <;> simp [nfStep, hs, hk]

/-- number of tags not in use as a first byte in any source -/
def freeTags (srcs : List Dict) : Nat :=
  ((List.range 256).filter fun t => !(srcs.any fun s => s.seen.contains t)).length

theorem Dict.newFrom_lookup_isSome_iff (srcs : List Dict) (b : Bytes) :
    ((Dict.newFrom srcs).lookup b).isSome ↔ ∃ c, (b, c) ∈ (mergedMG srcs).done.take (freeTags srcs) := by
  rw [Dict.lookup_isSome_iff, Dict.newFrom_eq, nfFold, nfStep_foldl_keys]
  simp [freeTags]

theorem Dict.newFrom_take_tagged (srcs : List Dict) :
    ∀ e ∈ (mergedMG srcs).done.take (freeTags srcs), ((Dict.newFrom srcs).lookup e.1).isSome :=
  fun e he => (Dict.newFrom_lookup_isSome_iff srcs e.1).2 ⟨e.2, he⟩

theorem Dict.newFrom_all_tagged (srcs : List Dict) (hfree : (mergedMG srcs).done.length ≤ freeTags srcs) :
    ∀ e ∈ (mergedMG srcs).done, ((Dict.newFrom srcs).lookup e.1).isSome := by
  rw [← List.take_of_length_le hfree]
  exact Dict.newFrom_take_tagged srcs

/-! ### region level, under `WF` -/

theorem Region.push_wf {r r' : Region} {b : Bytes} {i : Nat × Nat} (hw : r.codec.WF)
    (hp : Region.push r b = some (r', i)) : r'.codec.WF := by
  obtain ⟨s, _, rfl, _⟩ := Region.push_some hp
  exact Dict.wf_observe hw b

theorem Region.push_roundtrip {r r' : Region} {b : Bytes} {i : Nat × Nat} (hw : r.codec.WF)
    (hp : Region.push r b = some (r', i)) : Region.index r' i = some b := by
  obtain ⟨s, hs, rfl, rfl⟩ := Region.push_some hp
  rw [Region.index_eq_of_le (by simp only [List.length_append]; omega)]
  rw [List.drop_left, Nat.add_sub_cancel_left, List.take_length, Dict.decodeBytes_congr (Dict.observe_decode _ _),
    Dict.decode_stored hw hs]

theorem Region.push_frame {r r' : Region} {b : Bytes} {i : Nat × Nat}
    (hp : Region.push r b = some (r', i)) {j : Nat × Nat} (hj : j.1 ≤ j.2 ∧ j.2 ≤ r.inner.length) :
    Region.index r' j = Region.index r j := by
  obtain ⟨s, hs, rfl, rfl⟩ := Region.push_some hp
  rw [Region.index_eq_of_le hj, Region.index_eq_of_le (by simp only [List.length_append]; omega)]
  rw [take_drop_append_left _ _ _ _ hj.2, Dict.decodeBytes_congr (Dict.observe_decode _ _)]

inductive Reachable : Region → Prop
  | default : Reachable Region.default
  | push {r r' : Region} {b : Bytes} {i : Nat × Nat} : Reachable r → Region.push r b = some (r', i) → Reachable r'
  | clear {r : Region} : Reachable r → Reachable (Region.clear r)
  | merge {rs : List Region} : (∀ r ∈ rs, Reachable r) → Reachable (Region.merge rs)

theorem Region.merge_wf {rs : List Region} (h : ∀ r ∈ rs, r.codec.WF) : (Region.merge rs).codec.WF := by
  unfold Region.merge
  dsimp only
  exact Dict.wf_newFrom (List.forall_mem_map.2 fun r hr => (h r hr).stats)

theorem Reachable.wf {r : Region} (h : Reachable r) : r.codec.WF := by
  induction h with
  | default => exact Dict.wf_default
  | push _ hp ih => exact Region.push_wf ih hp
  | clear _ _ => exact Dict.wf_default
  | merge _ ih => exact Region.merge_wf ih

/-! ### concrete witnesses used by the non-vacuity examples in Props/C07 -/

def demoGen1 : Option Region := do
  let (r1, _) ← Region.push Region.default [97, 98]
  let (r1, _) ← Region.push r1 [97, 98]
  let (r1, _) ← Region.push r1 [99]
  some (Region.merge [r1, r1])

def demoGen2 : Option (Region × (Nat × Nat) × (Nat × Nat)) := do
  let r2 ← demoGen1
  let (r3, i) ← Region.push r2 [97, 98]
  let (r3, _) ← Region.push r3 [97, 98]
  let (r4, j) ← Region.push r3 [100, 101]
  some (r4, i, j)

/-- an unreachable source whose summary holds the empty string -/
def demoBad : Dict := ⟨[], BytesMap.default, ⟨[([], 1)]⟩, []⟩

end FC.Codec

namespace FC
open Region

instance instLawfulRegionRegionListUInt8ProdNat : LawfulRegion Codec.Region := .ofPost
  Codec.Dict.wf_default
  -- `isSome_push`: `Accepts` of the codec region is defined as success of `push` (Model/Coded.lean); which strings
  -- that is, is `C07.refuses_ambiguous`
  (fun _ _ _ => Iff.rfl)
  (fun r r' v i hi hp => by
    obtain ⟨s, _, hr, rfl⟩ := Codec.Region.push_some hp
    have hlen : r'.inner.length = r.inner.length + s.length := by rw [hr, List.length_append]
    refine ⟨Codec.Region.push_wf hi hp, ?_, ⟨v, Codec.Region.push_roundtrip hi hp, rfl⟩, fun j hv => ?_⟩
    · show _ ≤ _ ∧ _ ≤ r'.inner.length
      omega
    · have hv' : j.1 ≤ j.2 ∧ j.2 ≤ r.inner.length := hv
      exact ⟨show _ ≤ _ ∧ _ ≤ r'.inner.length by omega, Codec.Region.push_frame hp hv⟩)
  (fun r j _ hv => ⟨_, Codec.Region.index_eq_of_le hv⟩)
  (fun _ _ => Codec.Dict.wf_default)
  (fun _ _ => ⟨rfl, rfl, rfl, rfl⟩)
  (fun _ _ => ⟨rfl, rfl, rfl, rfl⟩)
  (fun a b v hs _ _ => by
    obtain ⟨hi, he, ho, hb⟩ := hs
    have hd : a.codec.decode = b.codec.decode := by
      rw [show a.codec.decode = ⟨a.codec.decode.offsets, a.codec.decode.bytes⟩ from rfl, ho, hb]
    show (Codec.Region.push a v = none ∧ Codec.Region.push b v = none) ∨ _
    simp only [push, Codec.Region.push_eq, Codec.Dict.stored_congr he hd v, hi]
    cases b.codec.stored v with
    | none => exact Or.inl ⟨rfl, rfl⟩
    | some s =>
      refine Or.inr ⟨_, _, _, rfl, rfl, rfl, ?_⟩
      simp only [Codec.Dict.observe_encode, Codec.Dict.observe_decode, he, hd, and_self])
  (fun a b i hs _ _ => by
    obtain ⟨hi, _, ho, hb⟩ := hs
    have hd : a.codec.decode = b.codec.decode := by
      rw [show a.codec.decode = ⟨a.codec.decode.offsets, a.codec.decode.bytes⟩ from rfl, ho, hb]
    show (_ ∧ _ ≤ a.inner.length ↔ _ ∧ _ ≤ b.inner.length) ∧ (_ → Codec.Region.index a i = Codec.Region.index b i)
    rw [Codec.Region.index, Codec.Region.index, hi, Codec.Dict.decodeBytes_congr hd]
    exact ⟨Iff.rfl, fun _ => rfl⟩)

instance : LawfulDense Codec.Region where
  cursor_default := rfl
  cursor_clear _ := rfl
  push_dense r r' v i _ hp := by
    obtain ⟨s, _, rfl, rfl⟩ := Codec.Region.push_some hp
    show _ = (r.inner.length, (r.inner ++ s).length)
    rw [List.length_append]

end FC
