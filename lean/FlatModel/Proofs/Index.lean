import FlatModel.Model.Index
/-! Laws of the index containers (C05, C19). -/
namespace FC

/-- C05 for one container: it *is* the list of pushed values. -/
class LawfulIdxCont (C : Type) {T : outParam Type} [IdxCont C T] : Prop where
  inv_default : IdxCont.Inv (IdxCont.default : C)
  inv_push : ∀ (c : C) x, IdxCont.Inv c → IdxCont.Inv (IdxCont.push c x)
  inv_clear : ∀ c : C, IdxCont.Inv (IdxCont.clear c)
  iter_default : IdxCont.iter (IdxCont.default : C) = []
  iter_push : ∀ (c : C) x, IdxCont.Inv c → IdxCont.iter (IdxCont.push c x) = IdxCont.iter c ++ [x]
  iter_clear : ∀ c : C, IdxCont.iter (IdxCont.clear c) = []
  index_eq : ∀ (c : C) i, IdxCont.Inv c → IdxCont.index c i = (IdxCont.iter c)[i]?
  len_eq : ∀ c : C, IdxCont.Inv c → IdxCont.len c = (IdxCont.iter c).length
  isEmpty_eq : ∀ c : C, IdxCont.Inv c → IdxCont.isEmpty c = (IdxCont.iter c).isEmpty

inductive IdxPushes {O T : Type} [IdxCont O T] : O → O → Prop
  | refl (c : O) : IdxPushes c c
  | step {c c' : O} (x : T) : IdxPushes (IdxCont.push c x) c' → IdxPushes c c'

theorem IdxPushes.single {O T : Type} [IdxCont O T] (c : O) (x : T) : IdxPushes c (IdxCont.push c x) :=
  .step x (.refl _)

theorem IdxPushes.closed {O T : Type} [IdxCont O T] {S : O → Prop} (hS : ∀ (c : O) (x : T), S c → S (IdxCont.push c x)) {c c' : O}
    (hp : IdxPushes c c') (h : S c) : S c' := by
  induction hp with
  | refl => exact h
  | step x _ ih => exact ih (hS _ x h)

theorem IdxPushes.foldl {O T : Type} [IdxCont O T] (c : O) (xs : List T) : IdxPushes c (xs.foldl IdxCont.push c) := by
  induction xs generalizing c with
  | nil => exact .refl c
  | cons x xs ih => exact .step x (ih _)

theorem LawfulIdxCont.foldl_push {C T : Type} [IdxCont C T] [LawfulIdxCont C] (c : C) (xs : List T)
    (h : IdxCont.Inv c) :
    IdxCont.Inv (xs.foldl IdxCont.push c) ∧ IdxCont.iter (xs.foldl IdxCont.push c) = IdxCont.iter c ++ xs := by
  induction xs generalizing c with
  | nil => simp [h]
  | cons x xs ih =>
    obtain ⟨h1, h2⟩ := ih (IdxCont.push c x) (inv_push c x h)
    exact ⟨h1, by rw [List.foldl_cons, h2, iter_push c x h, List.append_assoc]; rfl⟩

theorem isEmpty_append' {α} (a b : List α) : (a ++ b).isEmpty = (a.isEmpty && b.isEmpty) := by
  cases a <;> simp

instance (T : Type) (sz : Nat) : LawfulIdxCont (VecIdx T sz) where
  inv_default := trivial
  inv_push _ _ _ := trivial
  inv_clear _ := trivial
  iter_default := rfl
  iter_push _ _ _ := rfl
  iter_clear _ := rfl
  index_eq _ _ _ := rfl
  len_eq _ _ := rfl
  isEmpty_eq _ _ := rfl

namespace Stride

theorem checkedMul_eq_some (a b x : Nat) : checkedMul a b = some x ↔ (x = a * b ∧ a * b < USIZE) := by
  unfold checkedMul
  split <;> simp_all <;> omega

theorem iter_striding (st c : Nat) : (striding st c).iter = (List.range c).map (st * ·) := by
  simp [iter, len, indexD, index]

theorem iter_saturated (st c r : Nat) :
    (saturated st c r).iter = (List.range c).map (st * ·) ++ List.replicate r (st * (c - 1)) := by
  simp only [iter, len, List.range_add, List.map_append, List.map_map]
  congr 1
  · exact List.map_congr_left fun a ha => by simp [indexD, index, List.mem_range.mp ha]
  · rw [List.eq_replicate_iff]
    simp [indexD, index, Nat.not_lt.mpr (Nat.le_add_right c _)]

theorem push_accept (s : Stride) (x : Nat) (h : s.Inv) (ha : (s.push x).2 = true) :
    (s.push x).1.Inv ∧ (s.push x).1.iter = s.iter ++ [x] := by
  cases s with
  | empty =>
    by_cases hx : x = 0 <;> simp_all [push, Inv, iter, len, indexD, index]
  | zero => simp [push, Inv, iter, len, indexD, index, List.range_succ]
  | striding st c =>
    simp only [push, checkedMul_eq_some] at ha ⊢
    simp only [Inv] at h
    split
    next h1 => exact ⟨Nat.le_succ_of_le h, by simp [iter_striding, List.range_succ, h1.1]⟩
    next h1 =>
      split
      next h2 => exact ⟨⟨h, Nat.le_refl 1⟩, by simp [iter_striding, iter_saturated, h2]⟩
      next h2 => simp [h1, h2] at ha
  | saturated st c r =>
    simp only [push] at ha ⊢
    split
    next h2 => exact ⟨⟨h.1, Nat.le_succ_of_le h.2⟩, by simp [iter_saturated, List.replicate_succ', h2]⟩
    next h2 => simp [h2] at ha

theorem len_iter (s : Stride) : s.iter.length = s.len := by simp [iter]

theorem index_eq (s : Stride) (i : Nat) (hi : i < s.len) : s.index i = s.iter[i]? := by
  have : s.iter[i]? = some (s.indexD i) := by
    simp [iter, hi]
  rw [this]
  cases s <;> simp_all [len, index, indexD]
  split <;> simp

theorem isEmpty_eq (s : Stride) (h : s.Inv) : s.isEmpty = s.iter.isEmpty := by
  cases s <;> simp_all [isEmpty, iter, len, Inv, List.range_succ] <;> omega

end Stride

namespace IndexList

theorem iter_push (l : IndexList) (x : Nat) : (l.push x).iter = l.iter ++ [x] := by
  unfold push iter
  split
  · rename_i h
    have : l.chonk = [] := by simpa using h
    split <;> simp [this]
  · simp

theorem index_eq (l : IndexList) (i : Nat) : l.index i = l.iter[i]? := by
  unfold index iter
  split
  · rename_i h; rw [List.getElem?_append_left h]
  · rename_i h; rw [List.getElem?_append_right (by omega)]

end IndexList

instance : LawfulIdxCont IndexList where
  inv_default := trivial
  inv_push _ _ _ := trivial
  inv_clear _ := trivial
  iter_default := rfl
  iter_push l x _ := IndexList.iter_push l x
  iter_clear _ := rfl
  index_eq l i _ := IndexList.index_eq l i
  len_eq l _ := by simp [IdxCont.len, IdxCont.iter, IndexList.len, IndexList.iter]
  isEmpty_eq l _ := by
    simp [IdxCont.isEmpty, IdxCont.iter, IndexList.isEmpty, IndexList.iter, isEmpty_append']

namespace IndexOptimized

abbrev Inv (o : IndexOptimized) : Prop := o.strided.Inv

theorem push_eq (s : Stride) (l : IndexList) (x : Nat) :
    push ⟨s, l⟩ x = if l.isEmpty ∧ (s.push x).2 = true then ⟨(s.push x).1, l⟩ else ⟨s, l.push x⟩ := by
  unfold push
  cases l.isEmpty <;> cases h : (s.push x).2 <;> simp [h]

theorem push_spec (o : IndexOptimized) (x : Nat) (h : o.Inv) :
    (o.push x).Inv ∧ (o.push x).iter = o.iter ++ [x] := by
  obtain ⟨s, l⟩ := o
  rw [push_eq]
  split
  next hc =>
    have he : l.iter = [] := by simpa [IndexList.isEmpty, IndexList.iter] using hc.1
    exact ⟨(Stride.push_accept s x h hc.2).1, by simp [iter, (Stride.push_accept s x h hc.2).2, he]⟩
  next => exact ⟨h, by simp [iter, IndexList.iter_push]⟩

theorem index_eq (o : IndexOptimized) (i : Nat) : o.index i = o.iter[i]? := by
  unfold index iter
  split
  · rename_i h
    rw [List.getElem?_append_left (by rw [Stride.len_iter]; exact h)]
    exact Stride.index_eq _ _ h
  · rename_i h
    rw [List.getElem?_append_right (by rw [Stride.len_iter]; omega), Stride.len_iter]
    exact IndexList.index_eq _ _

end IndexOptimized

instance : LawfulIdxCont IndexOptimized where
  inv_default := trivial
  inv_push o x h := (IndexOptimized.push_spec o x h).1
  inv_clear _ := trivial
  iter_default := rfl
  iter_push o x h := (IndexOptimized.push_spec o x h).2
  iter_clear _ := rfl
  index_eq o i _ := IndexOptimized.index_eq o i
  len_eq o _ := by
    simp [IdxCont.len, IdxCont.iter, IndexOptimized.len, IndexOptimized.iter, Stride.len_iter,
      IndexList.len, IndexList.iter]
  isEmpty_eq o h := by
    simp only [IdxCont.isEmpty, IdxCont.iter, IndexOptimized.isEmpty, IndexOptimized.iter,
      isEmpty_append', Stride.isEmpty_eq _ h, IndexList.isEmpty, IndexList.iter]

end FC
