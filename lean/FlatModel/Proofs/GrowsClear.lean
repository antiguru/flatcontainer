import FlatModel.Proofs.Grows
/-! `clear` keeps every capacity *exactly* (C17 / C18: "`clear` keeps the allocations").

`GrowthLaw.clear_step` (under `HeapInv.CapInv` alone) only says that `clear` lowers no capacity:
`ConsecutiveIndexPairs::clear` empties the offsets and pushes the leading `0` again, and `CapInv` does not say
that the vector receiving that `0` already has room for it (it does in every state built by `default`,
`push`, `clear`: the `0` was there before). `ClearExact` carries that extra invariant (`Anch`), which
is established by `default` and kept by `push` and `clear`, and under it `clear` changes no reported
capacity at all. The law is about the list `heap_size` reports; by key it follows (`GrowthLaw.clear_capAt`). -/
namespace FC
open Region

/-- `Anch c x`: the capacities of `c` cover what a cleared container holds after `push x` -/
class IdxAnchor (O : Type) {T : outParam Type} [IdxCont O T] [IdxAux O] [IdxHeapInv O] where
  Anch : O → T → Prop
  anch_init : ∀ x : T, Anch (IdxCont.push (IdxCont.default : O) x) x
  anch_push : ∀ (c : O) (x y : T), IdxHeapInv.CapInv c → Anch c x → Anch (IdxCont.push c y) x
  anch_clear : ∀ (c : O) (x : T), IdxHeapInv.CapInv c → Anch c x → Anch (IdxCont.push (IdxCont.clear c) x) x
  anch_keep : ∀ (c : O) (x : T), IdxHeapInv.CapInv c → Anch c x → capsI (IdxCont.push (IdxCont.clear c) x) = capsI c

instance idxAnchor_capd {C T : Type} [IdxCont C T] [HasStores C] [L : LawfulStores C] : IdxAnchor (Capd C) where
  Anch c x := LeAll (HasStores.lens (IdxCont.push (IdxCont.default : C) x)) c.caps
  anch_init x := by
    show LeAll _ (Capd.fit (Capd.zeros (C := C)) (HasStores.lens (IdxCont.push (IdxCont.default : C) x)))
    exact Capd.fit_ge_lens _ _ (by rw [L.lens_len]; simp [Capd.zeros])
  anch_push c x y h ha := by
    show LeAll _ (Capd.fit c.caps (HasStores.lens (IdxCont.push c.a y)))
    exact leAll_trans ha (Capd.fit_ge_caps _ _ (by rw [L.lens_len, capd_caps_len c h]))
  anch_clear c x h ha := by
    show LeAll _ (Capd.fit c.caps (HasStores.lens (IdxCont.push (IdxCont.clear c.a) x)))
    rw [L.clear_default]
    exact Capd.fit_ge_lens _ _ (by rw [L.lens_len, capd_caps_len c h])
  anch_keep c x h ha := by
    have hc := capd_cap_push _ x (capd_cap_clear c h)
    rw [capd_capsI c h, capd_capsI _ hc]
    show List.zipWith (· * ·) (Capd.fit c.caps (HasStores.lens (IdxCont.push (IdxCont.clear c.a) x))) _ = _
    rw [L.clear_default, Capd.fit_eq_of_le ha]

theorem IdxAnchor.pushes {O T : Type} [IdxCont O T] [IdxAux O] [IdxHeapInv O] [LawfulIdxHeap O] [AO : IdxAnchor O]
    {c c' : O} (hp : IdxPushes c c') (x : T) (h : IdxHeapInv.CapInv c) (ha : AO.Anch c x) : AO.Anch c' x :=
  (hp.closed (S := fun c => IdxHeapInv.CapInv c ∧ AO.Anch c x) (fun _ y hc =>
    ⟨LawfulIdxHeap.cap_push _ y hc.1, AO.anch_push _ x y hc.1 hc.2⟩) ⟨h, ha⟩).2

/-- the invariant under which `clear` changes no capacity, and the law. `Anch` is established by `default` and kept
by `push` and `clear` only (no field for the sizing calls, `clone`, `clone_from`): the law is for the states built
by those three, whereas `KeepsCaps` needs `HeapInv.CapInv` alone, which every operation keeps. -/
class ClearExact (R : Type) {V I : outParam Type} [Region R V I] [RegionAux R] [HeapInv R] where
  Anch : R → Prop
  anch_default : Anch (default : R)
  anch_push : ∀ (r r' : R) (v : V) (i : I), HeapInv.CapInv r → Anch r → push r v = some (r', i) → Anch r'
  anch_clear : ∀ r : R, HeapInv.CapInv r → Anch r → Anch (clear r)
  clear_exact : ∀ r : R, HeapInv.CapInv r → Anch r → capsOf (clear r) = capsOf r

section Generic
variable {R V I : Type} [Region R V I] [RegionAux R]

theorem GrowthLaw.clear_capAt {G : Grows R} {P : R → Prop} (L : GrowthLaw G P) (r : R) (h : P r)
    (he : capsOf (clear r) = capsOf r) (k : Key) : G.capAt (clear r) k = G.capAt r k := by
  by_cases hk : k ∈ G.keys r
  · have := L.keys_caps _ (L.inv_clear r h)
    rw [he, ← L.keys_caps r h, L.keys_clear r h] at this
    exact List.map_inj_left.1 this k hk
  · rw [L.capAt_notin r k hk, L.capAt_notin _ k (by rwa [L.keys_clear r h])]

variable [HeapInv R] [LawfulHeap R] [C : ClearExact R]

theorem ClearExact.pushes {r r' : R} (hp : Pushes r r') (h : HeapInv.CapInv r) (ha : C.Anch r) :
    HeapInv.CapInv r' ∧ C.Anch r' :=
  hp.closed (S := fun r => HeapInv.CapInv r ∧ C.Anch r) (fun _ _ _ _ hc h1 =>
    ⟨LawfulHeap.cap_push _ _ _ _ hc.1 h1, C.anch_push _ _ _ _ hc.1 hc.2 h1⟩) ⟨h, ha⟩

theorem ClearExact.cols_pushes {cs cs' : List R} (hp : List.Forall₂ Pushes cs cs')
    (h : ∀ c ∈ cs, HeapInv.CapInv c ∧ C.Anch c) : ∀ c ∈ cs', C.Anch c := fun c' hc' =>
  have ⟨c, hc, h1⟩ := List.forall₂_mem_right hp c' hc'
  (C.pushes h1 (h c hc).1 (h c hc).2).2
end Generic

@[reducible] def ClearExact.ofEq {R V I : Type} [Region R V I] [RegionAux R] [HeapInv R]
    (h : ∀ r : R, capsOf (clear r) = capsOf r) : ClearExact R where
  Anch _ := True
  anch_default := trivial
  anch_push _ _ _ _ _ _ _ := trivial
  anch_clear _ _ _ := trivial
  clear_exact r _ _ := h r

instance clearExact_mirror (T : Type) : ClearExact (MirrorRegion T) := .ofEq fun _ => rfl
instance clearExact_tupleNil : ClearExact TupleNil := .ofEq fun _ => rfl
instance clearExact_owned (T : Type) [ElemSize T] : ClearExact (OwnedRegion T) := .ofEq fun _ => rfl
instance clearExact_vec (T : Type) [ElemSize T] : ClearExact (VecRegion T) := .ofEq fun _ => rfl

section String
variable {R I : Type} [Region R (List UInt8) I] [RegionAux R] [HeapInv R] [LawfulHeap R] [C : ClearExact R]
instance clearExact_string : ClearExact (StringRegion R) where
  Anch r := C.Anch r.inner
  anch_default := C.anch_default
  anch_push _ _ _ _ h ha hp := (C.pushes (string_pushes hp) h ha).2
  anch_clear r := C.anch_clear r.inner
  clear_exact r := C.clear_exact r.inner
end String

section Option
variable {R V I : Type} [Region R V I] [RegionAux R] [HeapInv R] [LawfulHeap R] [C : ClearExact R]
instance clearExact_option : ClearExact (OptionRegion R) where
  Anch r := C.Anch r.inner
  anch_default := C.anch_default
  anch_push _ _ _ _ h ha hp := (C.pushes (option_pushes hp) h ha).2
  anch_clear r := C.anch_clear r.inner
  clear_exact r := C.clear_exact r.inner
end Option

section Collapse
variable {R V I : Type} [Region R V I] [HasEqv V] [RegionAux R] [IndexSize I] [HeapInv R] [LawfulHeap R] [C : ClearExact R]
instance clearExact_collapse : ClearExact (CollapseSequence R I) where
  Anch r := C.Anch r.inner
  anch_default := C.anch_default
  anch_push _ _ _ _ h ha hp := (C.pushes (collapse_pushes hp) h ha).2
  anch_clear r := C.anch_clear r.inner
  clear_exact r := C.clear_exact r.inner
end Collapse

section Result
variable {T VT IT E VE IE : Type} [Region T VT IT] [Region E VE IE] [RegionAux T] [RegionAux E]
  [HeapInv T] [HeapInv E] [LawfulHeap T] [LawfulHeap E] [CT : ClearExact T] [CE : ClearExact E]
instance clearExact_result : ClearExact (ResultRegion T E) where
  Anch r := CT.Anch r.oks ∧ CE.Anch r.errs
  anch_default := ⟨CT.anch_default, CE.anch_default⟩
  anch_push _ _ _ _ h ha hp := ⟨(CT.pushes (result_pushes hp).1 h.1 ha.1).2, (CE.pushes (result_pushes hp).2 h.2 ha.2).2⟩
  anch_clear r h ha := ⟨CT.anch_clear r.oks h.1 ha.1, CE.anch_clear r.errs h.2 ha.2⟩
  clear_exact r h ha := capsL_append_congr (CT.clear_exact r.oks h.1 ha.1) (CE.clear_exact r.errs h.2 ha.2)
end Result

section Tuple
variable {A VA IA B VB IB : Type} [Region A VA IA] [Region B VB IB] [RegionAux A] [RegionAux B]
  [HeapInv A] [HeapInv B] [LawfulHeap A] [LawfulHeap B] [CA : ClearExact A] [CB : ClearExact B]
instance clearExact_tuple : ClearExact (TupleCons A B) where
  Anch r := CA.Anch r.head ∧ CB.Anch r.tail
  anch_default := ⟨CA.anch_default, CB.anch_default⟩
  anch_push _ _ _ _ h ha hp := ⟨(CA.pushes (tuple_pushes hp).1 h.1 ha.1).2, (CB.pushes (tuple_pushes hp).2 h.2 ha.2).2⟩
  anch_clear r h ha := ⟨CA.anch_clear r.head h.1 ha.1, CB.anch_clear r.tail h.2 ha.2⟩
  clear_exact r h ha := capsL_append_congr (CA.clear_exact r.head h.1 ha.1) (CB.clear_exact r.tail h.2 ha.2)
end Tuple

section Slice
variable {R V I O : Type} [Region R V I] [IdxCont O I] [RegionAux R] [IdxAux O] [HeapInv R] [IdxHeapInv O]
  [LawfulHeap R] [LawfulIdxHeap O] [C : ClearExact R] [LO : IdxGrows O]

instance clearExact_slice : ClearExact (SliceRegion R O) where
  Anch r := C.Anch r.inner
  anch_default := C.anch_default
  anch_push _ _ _ _ h ha hp := (C.pushes (slice_pushes hp).1 h.2 ha).2
  anch_clear r h ha := C.anch_clear r.inner h.2 ha
  clear_exact r h ha := capsL_append_congr (LO.clear_caps r.slices h.1) (C.clear_exact r.inner h.2 ha)
end Slice

section Consec
variable {R V O : Type} [Region R V (Nat × Nat)] [DenseRegion R] [IdxCont O Nat] [RegionAux R] [IdxAux O]
  [HeapInv R] [IdxHeapInv O] [LawfulHeap R] [LawfulIdxHeap O] [C : ClearExact R] [AO : IdxAnchor O]

instance clearExact_consec : ClearExact (ConsecPairs R O) where
  Anch r := C.Anch r.inner ∧ AO.Anch r.indices 0
  anch_default := ⟨C.anch_default, AO.anch_init 0⟩
  anch_push _ _ _ _ h ha hp :=
    ⟨(C.pushes (consec_pushes hp).1 h.1 ha.1).2, IdxAnchor.pushes (consec_pushes hp).2 0 h.2.1 ha.2⟩
  anch_clear r h ha := ⟨C.anch_clear r.inner h.1 ha.1, AO.anch_clear r.indices 0 h.2.1 ha.2⟩
  clear_exact r h ha := capsL_append_congr (AO.anch_keep r.indices 0 h.2.1 ha.2) (C.clear_exact r.inner h.1 ha.1)
end Consec

section Stack
variable {R V I S : Type} [Region R V I] [IdxCont S I] [RegionAux R] [IdxAux S] [HeapInv R] [IdxHeapInv S]
  [LawfulHeap R] [C : ClearExact R] [LS : IdxGrows S]
instance clearExact_stack : ClearExact (FlatStack R S) where
  Anch fs := C.Anch fs.region
  anch_default := C.anch_default
  anch_push _ _ _ _ h ha hp := (C.pushes (stack_pushes hp).1 h.1 ha).2
  anch_clear fs h ha := C.anch_clear fs.region h.1 ha
  clear_exact fs h ha := capsL_append_congr (C.clear_exact fs.region h.1 ha) (LS.clear_caps fs.indices h.2)
end Stack

section Columns
variable {R V I O : Type} [Region R V I] [IdxCont O Nat] [RegionAux R] [IdxAux O] [ElemSize I]
  [HeapInv R] [IdxHeapInv O] [LawfulHeap R] [LawfulIdxHeap O] [C : ClearExact R] [AO : IdxAnchor O]

instance clearExact_columns : ClearExact (ColumnsRegion R I O) where
  Anch r := ClearExact.Anch r.indices ∧ ∀ c ∈ r.cols, C.Anch c
  anch_default := ⟨ClearExact.anch_default (R := ConsecPairs (OwnedRegion I) O), fun c hc => nomatch hc⟩
  anch_push r _ row _ h ha hp := by
    refine ⟨(ClearExact.pushes (columns_pushes hp).2 h.1 ha.1).2, C.cols_pushes (columns_pushes hp).1 fun c hc => ?_⟩
    rcases mem_padCols.mp hc with hc | ⟨_, rfl⟩
    · exact ⟨h.2 c hc, ha.2 c hc⟩
    · exact ⟨LawfulHeap.cap_default, C.anch_default⟩
  anch_clear r h ha := ⟨ClearExact.anch_clear r.indices h.1 ha.1,
    List.forall_mem_map.mpr fun c hc => C.anch_clear c (h.2 c hc) (ha.2 c hc)⟩
  clear_exact r h ha := by
    rw [columns_caps_clear, columns_caps, ClearExact.clear_exact r.indices h.1 ha.1,
      List.map_congr_left fun c hc => C.clear_exact c (h.2 c hc) (ha.2 c hc)]
end Columns

end FC
