import FlatModel.Model.Wrappers
import FlatModel.Proofs.Region
import FlatModel.Proofs.Index
/-! Laws of `ConsecutiveIndexPairs` (C01/C02/C08 core, C12). -/
namespace FC
open Region LawfulRegion

/-- what "the pairs are dense" (deduplicate.rs:114) means -/
class LawfulDense (R : Type) {V : outParam Type} [Region R V (Nat × Nat)] [DenseRegion R] : Prop where
  cursor_default : DenseRegion.cursor (default : R) = 0
  cursor_clear : ∀ r : R, DenseRegion.cursor (clear r) = 0
  push_dense : ∀ (r r' : R) (v : V) (i : Nat × Nat), Inv r → push r v = some (r', i) →
      i = (DenseRegion.cursor r, DenseRegion.cursor r')

instance (T : Type) : LawfulDense (OwnedRegion T) where
  cursor_default := rfl
  cursor_clear _ := rfl
  push_dense r r' v i _ hp := by
    cases hp
    simp [DenseRegion.cursor, MVec.len]

theorem adjacent_append_singleton {α : Type} {l : List α} {x a b : α} {k : Nat} :
    (l ++ [x])[k]? = some a ∧ (l ++ [x])[k + 1]? = some b ↔
      (l[k]? = some a ∧ l[k + 1]? = some b) ∨ (k + 1 = l.length ∧ l.getLast? = some a ∧ x = b) := by
  rcases Nat.lt_trichotomy (k + 1) l.length with h | h | h
  · rw [List.getElem?_append_left (by omega), List.getElem?_append_left h]
    exact ⟨Or.inl, fun h' => h'.elim id fun h' => by omega⟩
  · rw [List.getElem?_append_left (by omega), List.getElem?_append_right (by omega), List.getLast?_eq_getElem?,
      ← h, List.getElem?_eq_none (l := l) (Nat.le_of_eq h.symm)]
    simp
  · have h1 : (l ++ [x])[k + 1]? = none := List.getElem?_eq_none (by simp; omega)
    have h2 : l[k + 1]? = none := List.getElem?_eq_none (by omega)
    simp only [h1, h2, reduceCtorEq, and_false, false_or, false_iff, not_and]
    omega

section
variable {R V O : Type} [Region R V (Nat × Nat)] [DenseRegion R] [IdxCont O Nat]

theorem ConsecPairs.push_eq (r : ConsecPairs R O) (v : V) :
    push r v = (push r.inner v).bind fun p =>
      if p.2.1 = r.last then
        some (⟨p.1, IdxCont.push r.indices p.2.2, p.2.2⟩, (IdxCont.iter (IdxCont.push r.indices p.2.2)).length - 2)
      else none := by
  simp only [Region.push]
  rcases push r.inner v with _ | ⟨in', a, b⟩ <;> rfl

theorem ConsecPairs.push_eq_some {r r' : ConsecPairs R O} {v : V} {k : Nat} :
    push r v = some (r', k) ↔ ∃ b, push r.inner v = some (r'.inner, (r.last, b)) ∧
      r'.indices = IdxCont.push r.indices b ∧ r'.last = b ∧ k = (IdxCont.iter r'.indices).length - 2 := by
  cases r'
  simp only [ConsecPairs.push_eq, Option.bind_eq_some_iff, Option.ite_none_right_eq_some, Option.some.injEq,
    Prod.mk.injEq, ConsecPairs.mk.injEq, Prod.exists]
  constructor
  · rintro ⟨in', a, b, hp, rfl, ⟨rfl, rfl, rfl⟩, rfl⟩
    exact ⟨b, hp, rfl, rfl, rfl⟩
  · rintro ⟨b, hp, rfl, rfl, rfl⟩
    exact ⟨_, _, _, hp, rfl, ⟨rfl, rfl, rfl⟩, rfl⟩

theorem consec_pushes {r r' : ConsecPairs R O} {v : V} {k : Nat} (hp : push r v = some (r', k)) :
    Pushes r.inner r'.inner ∧ IdxPushes r.indices r'.indices := by
  obtain ⟨b, hpi, hind, _⟩ := ConsecPairs.push_eq_some.mp hp
  exact ⟨.single hpi, hind ▸ .single _ _⟩

theorem ConsecPairs.index_eq_of_pair {r : ConsecPairs R O} {k a b : Nat}
    (h : (IdxCont.iter r.indices)[k]? = some a ∧ (IdxCont.iter r.indices)[k + 1]? = some b) :
    index r k = index r.inner (a, b) := by
  simp only [Region.index, h.1, h.2]

theorem adjacent_of_lt {l : List Nat} {k : Nat} (hv : k + 1 < l.length) :
    l[k]? = some l[k] ∧ l[k + 1]? = some l[k + 1] :=
  ⟨List.getElem?_eq_getElem (by omega), List.getElem?_eq_getElem hv⟩

theorem ConsecPairs.valid_iff {r : ConsecPairs R O} {k : Nat} :
    Valid r k ↔ k + 1 < (IdxCont.iter r.indices).length := Iff.rfl

theorem ConsecPairs.last_eq_cursor {r : ConsecPairs R O} (hi : Inv r) : r.last = DenseRegion.cursor r.inner :=
  hi.2.2.1

theorem ConsecPairs.getLast?_indices {r : ConsecPairs R O} (hi : Inv r) :
    (IdxCont.iter r.indices).getLast? = some r.last :=
  hi.2.2.2.1

theorem ConsecPairs.valid_pair {r : ConsecPairs R O} (hi : Inv r) {k a b : Nat}
    (h : (IdxCont.iter r.indices)[k]? = some a ∧ (IdxCont.iter r.indices)[k + 1]? = some b) :
    Valid r.inner (a, b) :=
  hi.2.2.2.2 k a b h.1 h.2

theorem ConsecPairs.not_valid_of_iter {r : ConsecPairs R O} (h : IdxCont.iter r.indices = [0]) (k : Nat) :
    ¬ Valid r k := by
  rw [ConsecPairs.valid_iff, h]
  simp

theorem consec_iter_pos {r : ConsecPairs R O} (hi : Inv r) : 0 < (IdxCont.iter r.indices).length := by
  have hlast := ConsecPairs.getLast?_indices hi
  cases h : IdxCont.iter r.indices with
  | nil => simp [h] at hlast
  | cons _ _ => simp

variable [LawfulIdxCont O]

theorem consec_iter_default : IdxCont.iter (default : ConsecPairs R O).indices = [0] := by
  simp [Region.default, LawfulIdxCont.iter_push _ _ (LawfulIdxCont.inv_default (C := O)), LawfulIdxCont.iter_default]
theorem consec_iter_clear (r : ConsecPairs R O) : IdxCont.iter (clear r).indices = [0] := by
  simp [Region.clear, LawfulIdxCont.iter_push _ _ (LawfulIdxCont.inv_clear r.indices), LawfulIdxCont.iter_clear]

variable [LawfulDense R]

/-- under the invariant the `debug_assert_eq!` never fires -/
theorem ConsecPairs.push_eq_of_inv {r : ConsecPairs R O} (hi : Inv r) (v : V) :
    push r v = (push r.inner v).map fun p =>
      (⟨p.1, IdxCont.push r.indices p.2.2, p.2.2⟩, (IdxCont.iter r.indices).length - 1) := by
  rw [ConsecPairs.push_eq]
  rcases hp : push r.inner v with _ | ⟨in', a, b⟩
  · rfl
  · have ha : a = r.last := ((Prod.mk.inj (LawfulDense.push_dense _ _ _ _ hi.1 hp)).1).trans (ConsecPairs.last_eq_cursor hi).symm
    simp [ha, LawfulIdxCont.iter_push _ _ hi.2.1]
/-- the index returned is the position of the new item (C12) -/
theorem ConsecPairs.push_eq_some_of_inv (r r' : ConsecPairs R O) (v : V) (k : Nat) (hi : Inv r)
    (hp : push r v = some (r', k)) :
    push r.inner v = some (r'.inner, (DenseRegion.cursor r.inner, DenseRegion.cursor r'.inner)) ∧
    IdxCont.iter r'.indices = IdxCont.iter r.indices ++ [DenseRegion.cursor r'.inner] ∧
    IdxCont.Inv r'.indices ∧
    r'.last = DenseRegion.cursor r'.inner ∧ k = (IdxCont.iter r.indices).length - 1 := by
  obtain ⟨b, hpi, hind, hl, rfl⟩ := ConsecPairs.push_eq_some.mp hp
  obtain ⟨-, rfl⟩ := Prod.mk.inj (LawfulDense.push_dense _ _ _ _ hi.1 hpi)
  rw [hind, LawfulIdxCont.iter_push _ _ hi.2.1]
  exact ⟨ConsecPairs.last_eq_cursor hi ▸ hpi, rfl, LawfulIdxCont.inv_push _ _ hi.2.1, hl, by simp⟩

theorem ConsecPairs.valid_after_push (r r' : ConsecPairs R O) (v : V) (k k' : Nat) (hi : Inv r)
    (hp : push r v = some (r', k)) (hv : Valid r' k') : Valid r k' ∨ k' = k := by
  obtain ⟨_, hit, _, _, hk⟩ := ConsecPairs.push_eq_some_of_inv r r' v k hi hp
  simp only [ConsecPairs.valid_iff, hit, List.length_append, List.length_singleton] at hv ⊢
  omega

variable [LawfulRegion R]

/-- Item `k` is the inner item at the `k`-th pair of adjacent offsets. The invariant says every such
pair is a valid inner index and the last offset is the inner cursor; a push appends the new cursor,
so the pairs after it are the old ones and (old last offset, new cursor), which by density is the
index the inner push returned (`adjacent_append_singleton`). -/
instance : LawfulRegion (ConsecPairs R O) := .ofPost
  (inv_default := ⟨inv_default (R := R), LawfulIdxCont.inv_push _ _ LawfulIdxCont.inv_default,
    LawfulDense.cursor_default.symm, by rw [consec_iter_default]; rfl,
    fun k a b _ hb => by
      rw [consec_iter_default] at hb
      simp at hb⟩)
  (isSome_push := fun r v hi => by
    rw [ConsecPairs.push_eq_of_inv hi, Option.isSome_map]
    exact isSome_push (r := r.inner) hi.1)
  (push_post := by
    intro r r' v k hi hp
    obtain ⟨hpi, hit, hc', hl', rfl⟩ := ConsecPairs.push_eq_some_of_inv r r' v _ hi hp
    have hpos := consec_iter_pos hi
    obtain ⟨hin, hc, hl, hlast, hall⟩ := hi
    obtain ⟨hi', hv', ⟨u, hu, hs⟩, hext⟩ := push_post hpi hin
    -- the new item: the pair (old last offset, new cursor) at the old last position
    have hnew := (adjacent_append_singleton (k := (IdxCont.iter r.indices).length - 1) (x := DenseRegion.cursor r'.inner)).mpr
      (Or.inr ⟨by omega, hlast, rfl⟩)
    refine ⟨⟨hi', hc', hl', by simp [hit, hl'], fun j a b hja hjb => ?_⟩, ?_, ⟨u, ?_, hs⟩, fun j hj => ?_⟩
    · rw [hit] at hja hjb
      rcases adjacent_append_singleton.mp ⟨hja, hjb⟩ with h | ⟨_, h, rfl⟩
      · exact (hext _ (hall j a b h.1 h.2)).1
      · cases hlast.symm.trans h
        exact hl ▸ hv'
    · simp only [ConsecPairs.valid_iff, hit, List.length_append, List.length_singleton]
      omega
    · rw [ConsecPairs.index_eq_of_pair (hit ▸ hnew), hl]
      exact hu
    · have hp := adjacent_of_lt hj
      have hp' := (adjacent_append_singleton (x := DenseRegion.cursor r'.inner)).mpr (Or.inl hp)
      have hj' : Valid r' j := by
        simp only [ConsecPairs.valid_iff, hit, List.length_append] at hj ⊢
        omega
      refine ⟨hj', ?_⟩
      rw [ConsecPairs.index_eq_of_pair (hit ▸ hp'), ConsecPairs.index_eq_of_pair hp]
      exact (hext _ (hall j _ _ hp.1 hp.2)).2)
  (valid_reads := fun r j hi hv => by
    rw [ConsecPairs.index_eq_of_pair (adjacent_of_lt hv)]
    exact valid_reads r.inner _ hi.1 (ConsecPairs.valid_pair hi (adjacent_of_lt hv)))
  (clear_inv := fun r hi => ⟨clear_inv r.inner hi.1, LawfulIdxCont.inv_push _ _ (LawfulIdxCont.inv_clear _),
    (LawfulDense.cursor_clear _).symm, by rw [consec_iter_clear]; rfl,
    fun k a b _ hb => by
      rw [consec_iter_clear] at hb
      simp at hb⟩)
  (clear_sim := fun r hi => ⟨clear_sim r.inner hi.1, by rw [consec_iter_clear, consec_iter_default], rfl⟩)
  (sim_refl := fun r hi => ⟨sim_refl r.inner hi.1, rfl, rfl⟩)
  (sim_push := by
    intro a b v ⟨hsin, hit, hl⟩ ha hb
    rw [ConsecPairs.push_eq_of_inv ha, ConsecPairs.push_eq_of_inv hb, hit]
    exact sim_push_map v hsin ha.1 hb.1 fun _ _ i h =>
      ⟨⟨h, by rw [LawfulIdxCont.iter_push _ _ ha.2.1, LawfulIdxCont.iter_push _ _ hb.2.1, hit], rfl⟩, rfl⟩)
  (sim_index := by
    intro a b i ⟨hsin, hit, hl⟩ ha hb
    refine ⟨by simp only [ConsecPairs.valid_iff, hit], fun hv => ?_⟩
    have hp := adjacent_of_lt hv
    rw [ConsecPairs.index_eq_of_pair hp, ConsecPairs.index_eq_of_pair (r := b) (by rw [← hit]; exact hp)]
    exact (sim_index a.inner b.inner _ hsin ha.1 hb.1).2 (ConsecPairs.valid_pair ha hp))

end
end FC
