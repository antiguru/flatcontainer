import FlatModel.Model.Ops
import FlatModel.Proofs.Index
import FlatModel.Proofs.Region
import FlatModel.Proofs.Slice
/-! Capacities never change what a container means: `Capd C` obeys the laws of `C`;
a `FlatStack` is a lawful region whenever its region and index container are. -/
namespace FC
open Region LawfulRegion

instance {C T : Type} [IdxCont C T] [HasStores C] [L : LawfulIdxCont C] : LawfulIdxCont (Capd C) where
  inv_default := L.inv_default
  inv_push c x h := L.inv_push c.a x h
  inv_clear c := L.inv_clear c.a
  iter_default := L.iter_default
  iter_push c x h := L.iter_push c.a x h
  iter_clear c := L.iter_clear c.a
  index_eq c i h := L.index_eq c.a i h
  len_eq c h := L.len_eq c.a h
  isEmpty_eq c h := L.isEmpty_eq c.a h

section Stack
variable {R V I S : Type} [Region R V I] [IdxCont S I]

theorem FlatStack.copy_eq (fs : FlatStack R S) (v : V) :
    fs.copy v = (push fs.region v).map fun p => ⟨IdxCont.push fs.indices p.2, p.1⟩ := by
  rw [FlatStack.copy]
  cases push fs.region v <;> rfl

theorem FlatStack.push_eq (fs : FlatStack R S) (v : V) :
    push fs v = (push fs.region v).map fun p => (⟨IdxCont.push fs.indices p.2, p.1⟩, IdxCont.len fs.indices) := by
  simp only [Region.push, FlatStack.copy_eq, Option.map_map]
  rfl

theorem FlatStack.push_eq_some {fs fs' : FlatStack R S} {v : V} {k : Nat} :
    push fs v = some (fs', k) ↔ ∃ i, push fs.region v = some (fs'.region, i) ∧
      fs'.indices = IdxCont.push fs.indices i ∧ k = IdxCont.len fs.indices := by
  cases fs'
  simp only [FlatStack.push_eq, Option.map_eq_some_iff, Prod.exists, Prod.mk.injEq, FlatStack.mk.injEq]
  constructor
  · rintro ⟨r', i, h, ⟨rfl, rfl⟩, rfl⟩
    exact ⟨i, h, rfl, rfl⟩
  · rintro ⟨i, h, rfl, rfl⟩
    exact ⟨_, i, h, ⟨rfl, rfl⟩, rfl⟩

theorem stack_push_parts (fs fs' : FlatStack R S) (v : V) (k : Nat) (hp : push fs v = some (fs', k)) :
    ∃ i, push fs.region v = some (fs'.region, i) ∧ fs'.indices = IdxCont.push fs.indices i :=
  (FlatStack.push_eq_some.mp hp).imp fun _ h => ⟨h.1, h.2.1⟩

theorem stack_pushes {fs fs' : FlatStack R S} {v : V} {k : Nat} (hp : push fs v = some (fs', k)) :
    Pushes fs.region fs'.region ∧ IdxPushes fs.indices fs'.indices := by
  obtain ⟨i, hp', hind, -⟩ := FlatStack.push_eq_some.mp hp
  exact ⟨.single hp', hind ▸ .single _ _⟩

theorem FlatStack.valid_iff {fs : FlatStack R S} {k : Nat} : Valid fs k ↔ k < (IdxCont.iter fs.indices).length :=
  Iff.rfl

variable [LR : LawfulRegion R] [LS : LawfulIdxCont S]

omit LR in
theorem FlatStack.index_eq_of_inv (fs : FlatStack R S) (k : Nat) (hc : IdxCont.Inv fs.indices) :
    index fs k = ((IdxCont.iter fs.indices)[k]?).bind (index fs.region) := by
  simp only [Region.index, FlatStack.get, LS.index_eq _ k hc]
  cases (IdxCont.iter fs.indices)[k]? <;> rfl

/-- A stack has the invariant and the `Sim` of the slice region with the same two fields, and the same
`default` and `clear`; what does not involve `push` or `index` is taken from there. -/
instance : LawfulRegion (FlatStack R S) := .ofPost
  (inv_default := inv_default (R := SliceRegion R S))
  (isSome_push := fun fs v hi => by
    rw [FlatStack.push_eq, Option.isSome_map]
    exact isSome_push (r := fs.region) hi.1)
  (push_post := by
    intro fs fs' v k ⟨hr, hc, hall⟩ hp
    obtain ⟨ind', r'⟩ := fs'
    obtain ⟨i, hp', hind, rfl⟩ := FlatStack.push_eq_some.mp hp
    subst hind
    obtain ⟨hr', hvi, ⟨u, hu, hs⟩, hext⟩ := push_post hp' hr
    have hc' := LS.inv_push fs.indices i hc
    have hit := LS.iter_push fs.indices i hc
    refine ⟨⟨hr', hc', ?_⟩, ?_, ⟨u, ?_, hs⟩, fun j hj => ⟨?_, ?_⟩⟩
    · simpa [hit, or_imp, forall_and] using ⟨fun j hj => (hext j (hall j hj)).1, hvi⟩
    · simp [FlatStack.valid_iff, hit, LS.len_eq _ hc]
    · rw [FlatStack.index_eq_of_inv ⟨_, r'⟩ _ hc', hit, LS.len_eq _ hc]
      simp [hu]
    · simp only [FlatStack.valid_iff, hit, List.length_append] at hj ⊢
      omega
    · rw [FlatStack.index_eq_of_inv ⟨_, r'⟩ _ hc', FlatStack.index_eq_of_inv _ _ hc, hit, List.getElem?_append_left hj, List.getElem?_eq_getElem hj]
      exact (hext _ (hall _ (List.getElem_mem hj))).2)
  (valid_reads := fun fs k ⟨hr, hc, hall⟩ hv => by
    rw [FlatStack.index_eq_of_inv _ _ hc, List.getElem?_eq_getElem hv]
    exact LR.valid_reads fs.region _ hr (hall _ (List.getElem_mem hv)))
  (clear_inv := fun fs hi => clear_inv (⟨fs.indices, fs.region⟩ : SliceRegion R S) hi)
  (clear_sim := fun fs hi => clear_sim (⟨fs.indices, fs.region⟩ : SliceRegion R S) hi)
  (sim_refl := fun fs hi => sim_refl (⟨fs.indices, fs.region⟩ : SliceRegion R S) hi)
  (sim_push := by
    intro a b v ⟨hit, hsr⟩ ha hb
    simp only [FlatStack.push_eq]
    exact sim_push_map v hsr ha.1 hb.1 fun _ _ i h =>
      ⟨⟨by simp [LS.iter_push _ _ ha.2.1, LS.iter_push _ _ hb.2.1, hit], h⟩,
        by rw [LS.len_eq _ ha.2.1, LS.len_eq _ hb.2.1, hit]⟩)
  (sim_index := by
    intro a b k ⟨hit, hsr⟩ ha hb
    refine ⟨by simp only [FlatStack.valid_iff, hit], fun hv => ?_⟩
    rw [FlatStack.index_eq_of_inv _ _ ha.2.1, FlatStack.index_eq_of_inv _ _ hb.2.1, ← hit, List.getElem?_eq_getElem hv]
    exact (LR.sim_index a.region b.region _ hsr ha.1 hb.1).2 (ha.2.2 _ (List.getElem_mem hv)))

end Stack
end FC
