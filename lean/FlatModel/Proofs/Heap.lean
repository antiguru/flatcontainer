import FlatModel.Model.Coded
import FlatModel.Proofs.FanOut
import FlatModel.Proofs.Slice
import FlatModel.Proofs.Columns
import FlatModel.Proofs.Collapse
import FlatModel.Proofs.Stack
import FlatModel.Proofs.Room
/-! `heap_size` accounting (C18): every vector has length ≤ capacity in every state the API can
produce, so every reported `(used, capacity)` pair has used ≤ capacity; pushes never decrease the
used bytes; `clear` keeps every capacity and forgets the payload; composites report every child.

The capacity invariant is a class (`IdxHeapInv` for index containers, `HeapInv` for regions), the
laws under it are `LawfulIdxHeap` / `LawfulHeap`, with `KeepsCaps` and `ClearsToDefault` for the two
facts about `clear` that not every region has; one instance per type constructor. The index
containers are all `Capd C` and share one instance, by arithmetic on the lists of lengths, capacities
and element sizes. `Stored` is the lower bound: bytes computed from the contents. -/
namespace FC
open Region

abbrev LeAll (a b : List Nat) : Prop := List.Forall₂ (· ≤ ·) a b

theorem leAll_refl (a : List Nat) : LeAll a a := List.forall₂_same.mpr fun _ _ => Nat.le_refl _

theorem leAll_trans {a b c : List Nat} (h1 : LeAll a b) (h2 : LeAll b c) : LeAll a c :=
  h1.trans' h2 fun _ _ _ => Nat.le_trans

theorem leAll_sum {a b : List Nat} (h : LeAll a b) : a.sum ≤ b.sum := by
  induction h with
  | nil => exact Nat.le_refl _
  | cons hab _ ih =>
    simp only [List.sum_cons]
    omega

theorem leAll_of_eq {a b : List Nat} (h : a = b) : LeAll a b := h ▸ leAll_refl a

theorem leAll_iff_getElem {a b : List Nat} :
    LeAll a b ↔ a.length = b.length ∧ ∀ k (h1 : k < a.length) (h2 : k < b.length), a[k] ≤ b[k] := by
  rw [LeAll, List.forall₂_iff_get]
  simp only [List.get_eq_getElem]

theorem LeAll.mul {a b : List Nat} (h : LeAll a b) (s : List Nat) :
    LeAll (List.zipWith (· * ·) a s) (List.zipWith (· * ·) b s) :=
  h.zipWith' (List.forall₂_same.mpr fun _ _ => rfl) fun _ _ _ _ hab hcd => hcd ▸ Nat.mul_le_mul_right _ hab

theorem leAll_zeros {α : Type} (s : List α) {l : List Nat} (h : l.length = s.length) : LeAll (s.map fun _ => 0) l :=
  leAll_iff_getElem.mpr ⟨by simp [h], fun k _ _ => by simp⟩

theorem mem_zipWith_elim {α β γ : Type} (f : α → β → γ) (l1 : List α) (l2 : List β) (x : γ)
    (h : x ∈ List.zipWith f l1 l2) : ∃ a ∈ l1, ∃ b ∈ l2, x = f a b := by
  obtain ⟨k, hk, rfl⟩ := List.mem_iff_getElem.mp h
  exact ⟨_, List.getElem_mem _, _, List.getElem_mem _, List.getElem_zipWith⟩

theorem sum_map_le {α : Type} {f g : α → Nat} {l : List α} (h : ∀ x ∈ l, f x ≤ g x) : (l.map f).sum ≤ (l.map g).sum :=
  leAll_sum (List.forall₂_map_left_iff.mpr (List.forall₂_map_right_iff.mpr (List.forall₂_same.mpr h)))

theorem sum_map_const {α : Type} {f : α → Nat} {n : Nat} {l : List α} (h : ∀ x ∈ l, f x = n) :
    (l.map f).sum = l.length * n := by
  rw [List.map_congr_left h, List.map_const', List.sum_replicate_nat]

namespace MVec
variable {α : Type}

theorem wf_empty : (MVec.empty : MVec α).WF := Nat.le_refl _
theorem wf_withCapacity (n : Nat) : (MVec.withCapacity n : MVec α).WF := Nat.zero_le _
theorem wf_clear (v : MVec α) : v.clear.WF := Nat.zero_le _
theorem wf_clone (v : MVec α) : v.clone.WF := Nat.le_refl _

theorem reserve_cap_ge (v : MVec α) (n : Nat) : v.cap ≤ (v.reserve n).cap :=
  reserve_cap v n ▸ room_mono _ _ _

theorem wf_reserve (v : MVec α) (n : Nat) : (v.reserve n).WF := by
  have := reserve_cap_room v n
  simp only [WF, reserve_data]
  omega

theorem wf_extend (v : MVec α) (xs : List α) : (v.extend xs).WF := by
  have := reserve_cap_room v xs.length
  simp only [WF, extend, reserve_data, List.length_append]
  omega

theorem wf_push (v : MVec α) (x : α) : (v.push x).WF := wf_extend v [x]

theorem wf_cloneFrom (d s : MVec α) : (d.cloneFrom s).WF := by
  unfold cloneFrom
  split
  · assumption
  · exact grow_ge_need _ _

theorem heap_ok (v : MVec α) (sz : Nat) (h : v.WF) : (v.heap sz).1 ≤ (v.heap sz).2 :=
  Nat.mul_le_mul_right sz h

@[simp] theorem clear_cap (v : MVec α) : v.clear.cap = v.cap := rfl
end MVec

class LawfulStores (C : Type) {T : outParam Type} [IdxCont C T] [HasStores C] : Prop where
  lens_len : ∀ c : C, (HasStores.lens c).length = (HasStores.sizes C).length
  mask_len : ∀ c : C, (HasStores.reserveMask c).length = (HasStores.sizes C).length
  withCap_len : (HasStores.withCapMask C).length = (HasStores.sizes C).length
  lens_default : HasStores.lens (IdxCont.default : C) = Capd.zeros (C := C)
  clear_default : ∀ c : C, IdxCont.clear c = IdxCont.default
  lens_push : ∀ (c : C) x, LeAll (HasStores.lens c) (HasStores.lens (IdxCont.push c x))

instance (T : Type) (sz : Nat) : LawfulStores (VecIdx T sz) where
  lens_len _ := rfl
  mask_len _ := rfl
  withCap_len := rfl
  lens_default := rfl
  clear_default _ := rfl
  lens_push c x := by
    simp only [HasStores.lens, IdxCont.push, List.length_append, List.length_singleton]
    exact List.Forall₂.cons (Nat.le_succ _) List.Forall₂.nil

theorem IndexList.lens_push (l : IndexList) (x : Nat) :
    LeAll [l.smol.length, l.chonk.length] [(l.push x).smol.length, (l.push x).chonk.length] := by
  unfold IndexList.push
  split
  · split
    · exact List.Forall₂.cons (by simp) (leAll_refl _)
    · exact List.Forall₂.cons (Nat.le_refl _) (List.Forall₂.cons (by simp) List.Forall₂.nil)
  · exact List.Forall₂.cons (Nat.le_refl _) (List.Forall₂.cons (by simp) List.Forall₂.nil)

instance : LawfulStores IndexList where
  lens_len _ := rfl
  mask_len _ := rfl
  withCap_len := rfl
  lens_default := rfl
  clear_default _ := rfl
  lens_push l x := IndexList.lens_push l x

instance : LawfulStores IndexOptimized where
  lens_len _ := rfl
  mask_len _ := rfl
  withCap_len := rfl
  lens_default := rfl
  clear_default _ := rfl
  lens_push o x := by
    show LeAll [o.spilled.smol.length, o.spilled.chonk.length]
      [(o.push x).spilled.smol.length, (o.push x).spilled.chonk.length]
    unfold IndexOptimized.push
    split
    · split
      split
      · exact leAll_refl _
      · exact IndexList.lens_push _ _
    · exact IndexList.lens_push _ _

namespace Capd

theorem fit_ge_lens (caps lens : List Nat) (h : lens.length = caps.length) : LeAll lens (fit caps lens) :=
  fit_eq caps lens ▸ List.forall₂_zipWith_right (fun c l => le_room l 0 c) h.symm

theorem fit_ge_caps (caps lens : List Nat) (h : lens.length = caps.length) : LeAll caps (fit caps lens) :=
  fit_eq caps lens ▸ List.forall₂_zipWith_left (fun c l => room_mono l 0 c) h.symm

theorem fit_eq_of_le {caps lens : List Nat} (h : LeAll lens caps) : fit caps lens = caps := by
  rw [fit_eq]
  refine List.ext_getElem (by simp [h.length_eq]) fun k _ _ => ?_
  rw [List.getElem_zipWith]
  exact room_fit ((leAll_iff_getElem.mp h).2 k _ _)

end Capd

section IdxDefs
variable {O T : Type} [IdxCont O T] [IdxAux O]
/-- bytes in use, summed over the pairs the container reports to `heap_size` -/
def usedI (c : O) : Nat := ((IdxAux.heap c).map (·.1)).sum
/-- the capacities the container reports -/
def capsI (c : O) : List Nat := (IdxAux.heap c).map (·.2)
end IdxDefs

/-- the capacity invariant of an index container, chosen per type: for `Capd C`, every vector has length ≤ capacity -/
class IdxHeapInv (O : Type) {T : outParam Type} [IdxCont O T] [IdxAux O] where
  CapInv : O → Prop

open IdxHeapInv in
class LawfulIdxHeap (O : Type) {T : outParam Type} [IdxCont O T] [IdxAux O] [IdxHeapInv O] : Prop where
  cap_default : CapInv (IdxCont.default : O)
  cap_push : ∀ (c : O) x, CapInv c → CapInv (IdxCont.push c x)
  cap_clear : ∀ c : O, CapInv c → CapInv (IdxCont.clear c)
  cap_reserve : ∀ (c : O) n, CapInv c → CapInv (IdxAux.reserve c n)
  cap_reserveRegions : ∀ (c : O) rs, CapInv c → CapInv (IdxAux.reserveRegions c rs)
  cap_withCapacity : ∀ n, CapInv (IdxAux.withCapacity n : O)
  cap_merge : ∀ rs : List O, CapInv (IdxAux.mergeRegions rs)
  cap_clone : ∀ c : O, CapInv c → CapInv (IdxAux.clone c)
  cap_cloneFrom : ∀ d s : O, CapInv d → CapInv s → CapInv (IdxAux.cloneFrom d s)
  heap_ok : ∀ c : O, CapInv c → ∀ p ∈ IdxAux.heap c, p.1 ≤ p.2
  used_push : ∀ (c : O) x, CapInv c → usedI c ≤ usedI (IdxCont.push c x)
  used_clear : ∀ c : O, CapInv c → usedI (IdxCont.clear c) = usedI (IdxCont.default : O)
  used_default_le : ∀ c : O, CapInv c → usedI (IdxCont.default : O) ≤ usedI c
  used_clear_push : ∀ (c : O) x, CapInv c →
      usedI (IdxCont.push (IdxCont.clear c) x) = usedI (IdxCont.push (IdxCont.default : O) x)
  used_reserve : ∀ (c : O) n, CapInv c → usedI (IdxAux.reserve c n) = usedI c
  used_clone : ∀ c : O, CapInv c → usedI (IdxAux.clone c) = usedI c
  used_cloneFrom : ∀ d s : O, CapInv d → CapInv s → usedI (IdxAux.cloneFrom d s) = usedI s
  caps_clear : ∀ c : O, CapInv c → LeAll (capsI c) (capsI (IdxCont.clear c))
  caps_push : ∀ (c : O) x, CapInv c → LeAll (capsI c) (capsI (IdxCont.push c x))

theorem LawfulIdxHeap.used_clear_le {O T : Type} [IdxCont O T] [IdxAux O] [IdxHeapInv O] [LawfulIdxHeap O] (c : O)
    (h : IdxHeapInv.CapInv c) : usedI (IdxCont.clear c) ≤ usedI c :=
  used_clear c h ▸ used_default_le c h

section CapdInst
variable {C T : Type} [IdxCont C T] [HasStores C]

instance : IdxHeapInv (Capd C) := ⟨fun c => LeAll (HasStores.lens c.a) c.caps⟩

theorem capd_capInv_iff (c : Capd C) : IdxHeapInv.CapInv c ↔
    (HasStores.lens c.a).length = c.caps.length ∧
      ∀ k (h1 : k < (HasStores.lens c.a).length) (h2 : k < c.caps.length), (HasStores.lens c.a)[k] ≤ c.caps[k] :=
  leAll_iff_getElem

/-- the invariant gives `lens.length = caps.length`, so zipping with `caps` cuts off no entry of `lens` -/
theorem capd_useds (c : Capd C) (h : IdxHeapInv.CapInv c) :
    (IdxAux.heap c).map (·.1) = List.zipWith (· * ·) (HasStores.lens c.a) (HasStores.sizes C) := by
  have hl := Nat.le_of_eq h.length_eq
  show (Capd.heap c).map _ = _
  rw [Capd.heap, List.map_zipWith, ← List.map_fst_zip hl, List.zipWith_map_left, List.map_fst_zip hl]

theorem capd_usedI (c : Capd C) (h : IdxHeapInv.CapInv c) :
    usedI c = (List.zipWith (· * ·) (HasStores.lens c.a) (HasStores.sizes C)).sum := by
  rw [usedI, capd_useds c h]

theorem capd_capsI (c : Capd C) (h : IdxHeapInv.CapInv c) :
    capsI c = List.zipWith (· * ·) c.caps (HasStores.sizes C) := by
  have hl := Nat.le_of_eq h.length_eq.symm
  show (Capd.heap c).map _ = _
  rw [Capd.heap, List.map_zipWith, ← List.map_snd_zip hl, List.zipWith_map_left, List.map_snd_zip hl]

variable [L : LawfulStores C]

theorem capd_caps_len (c : Capd C) (h : IdxHeapInv.CapInv c) : c.caps.length = (HasStores.sizes C).length := by
  rw [← List.Forall₂.length_eq h, L.lens_len]

theorem capd_cap_default : IdxHeapInv.CapInv (IdxCont.default : Capd C) :=
  leAll_of_eq L.lens_default

theorem capd_cap_push (c : Capd C) (x : T) (h : IdxHeapInv.CapInv c) : IdxHeapInv.CapInv (IdxCont.push c x) :=
  Capd.fit_ge_lens _ _ (by rw [L.lens_len, capd_caps_len c h])

theorem capd_cap_clear (c : Capd C) (h : IdxHeapInv.CapInv c) : IdxHeapInv.CapInv (IdxCont.clear c) := by
  show LeAll (HasStores.lens (IdxCont.clear c.a)) c.caps
  rw [L.clear_default, L.lens_default]
  exact leAll_zeros _ (capd_caps_len c h)

theorem capd_cap_reserve (c : Capd C) (n : Nat) (h : IdxHeapInv.CapInv c) : IdxHeapInv.CapInv (Capd.reserve c n) := by
  refine leAll_trans h (leAll_iff_getElem.mpr ⟨?_, fun k _ _ => ?_⟩)
  · simp [Capd.reserve, ← h.length_eq, L.mask_len, L.lens_len]
  · simp only [Capd.reserve, List.getElem_zipWith, List.getElem_zip]
    split
    · exact room_mono _ _ _
    · exact Nat.le_refl _

theorem capd_cap_withCapacity (n : Nat) : IdxHeapInv.CapInv (Capd.withCapacity n : Capd C) := by
  show LeAll (HasStores.lens (IdxCont.default : C)) _
  rw [L.lens_default]
  exact leAll_zeros _ ((List.length_map _).trans L.withCap_len)

theorem capd_cap_cloneFrom (d s : Capd C) (hd : IdxHeapInv.CapInv d) : IdxHeapInv.CapInv (Capd.cloneFrom d s) :=
  Capd.fit_ge_lens _ _ (by rw [L.lens_len, capd_caps_len d hd])

instance instLawfulIdxHeapCapd : LawfulIdxHeap (Capd C) where
  cap_default := capd_cap_default
  cap_push := capd_cap_push
  cap_clear := capd_cap_clear
  cap_reserve := capd_cap_reserve
  cap_reserveRegions c rs h := capd_cap_reserve c _ h
  cap_withCapacity := capd_cap_withCapacity
  cap_merge rs := capd_cap_withCapacity _
  cap_clone c _ := leAll_refl _
  cap_cloneFrom d s hd _ := capd_cap_cloneFrom d s hd
  heap_ok c h p hp := by
    obtain ⟨k, hk, rfl⟩ := List.mem_iff_getElem.mp hp
    simp only [IdxAux.heap, Capd.heap, List.getElem_zipWith, List.getElem_zip]
    exact Nat.mul_le_mul_right _ ((leAll_iff_getElem.mp h).2 k _ _)
  used_push c x h := by
    rw [capd_usedI c h, capd_usedI _ (capd_cap_push c x h)]
    exact leAll_sum ((L.lens_push c.a x).mul _)
  used_clear c h := by
    rw [capd_usedI _ (capd_cap_clear c h), capd_usedI _ capd_cap_default]
    show (List.zipWith (· * ·) (HasStores.lens (IdxCont.clear c.a)) _).sum = _
    rw [L.clear_default]
    rfl
  used_default_le c h := by
    rw [capd_usedI c h, capd_usedI _ capd_cap_default]
    show (List.zipWith (· * ·) (HasStores.lens (IdxCont.default : C)) _).sum ≤ _
    rw [L.lens_default]
    exact leAll_sum ((leAll_zeros _ (L.lens_len c.a)).mul _)
  used_clear_push c x h := by
    rw [capd_usedI _ (capd_cap_push _ x (capd_cap_clear c h)), capd_usedI _ (capd_cap_push _ x capd_cap_default)]
    show (List.zipWith (· * ·) (HasStores.lens (IdxCont.push (IdxCont.clear c.a) x)) _).sum = _
    rw [L.clear_default]
    rfl
  used_reserve c n h := (capd_usedI _ (capd_cap_reserve c n h)).trans (capd_usedI c h).symm
  used_clone c h := (capd_usedI (Capd.clone c) (leAll_refl _)).trans (capd_usedI c h).symm
  used_cloneFrom d s hd hs := (capd_usedI _ (capd_cap_cloneFrom d s hd)).trans (capd_usedI s hs).symm
  caps_clear c h := leAll_of_eq ((capd_capsI c h).trans (capd_capsI _ (capd_cap_clear c h)).symm)
  caps_push c x h := by
    rw [capd_capsI c h, capd_capsI _ (capd_cap_push c x h)]
    exact (Capd.fit_ge_caps _ _ (by rw [L.lens_len, capd_caps_len c h])).mul _

theorem capd_vecIdx_heap {T : Type} {sz : Nat} (c : Capd (VecIdx T sz)) (h : IdxHeapInv.CapInv c) :
    ∃ cap, c.caps = [cap] ∧ IdxAux.heap c = [((IdxCont.iter c).length * sz, cap * sz)] := by
  have hl := capd_caps_len c h
  obtain ⟨a, caps⟩ := c
  match caps, hl with
  | [cap], _ => exact ⟨cap, rfl, rfl⟩

theorem capd_vecIdx_used {T : Type} {sz : Nat} (c : Capd (VecIdx T sz)) (h : IdxHeapInv.CapInv c) :
    usedI c = (IdxCont.iter c).length * sz := by
  obtain ⟨cap, _, hh⟩ := capd_vecIdx_heap c h
  simp [usedI, hh]

end CapdInst

def usedL (h : List (Nat × Nat)) : Nat := (h.map (·.1)).sum
def capsL (h : List (Nat × Nat)) : List Nat := h.map (·.2)

theorem usedL_append (a b : List (Nat × Nat)) : usedL (a ++ b) = usedL a + usedL b := by
  simp [usedL]
theorem capsL_append (a b : List (Nat × Nat)) : capsL (a ++ b) = capsL a ++ capsL b := by
  simp [capsL]
theorem usedL_flatten (hs : List (List (Nat × Nat))) : usedL hs.flatten = (hs.map usedL).sum := by
  rw [usedL, List.map_flatten, List.sum_flatten, List.map_map]
  rfl
theorem capsL_flatten (hs : List (List (Nat × Nat))) : capsL hs.flatten = (hs.map capsL).flatten :=
  List.map_flatten

/-! a composite reports its parts one after the other: each accounting law of the whole is the same law of the parts -/
theorem usedL_append_le {a b a' b' : List (Nat × Nat)} (h1 : usedL a ≤ usedL a') (h2 : usedL b ≤ usedL b') :
    usedL (a ++ b) ≤ usedL (a' ++ b') :=
  usedL_append a b ▸ usedL_append a' b' ▸ Nat.add_le_add h1 h2
theorem usedL_append_congr {a b a' b' : List (Nat × Nat)} (h1 : usedL a = usedL a') (h2 : usedL b = usedL b') :
    usedL (a ++ b) = usedL (a' ++ b') :=
  usedL_append a b ▸ usedL_append a' b' ▸ congrArg₂ _ h1 h2
theorem capsL_append_le {a b a' b' : List (Nat × Nat)} (h1 : LeAll (capsL a) (capsL a')) (h2 : LeAll (capsL b) (capsL b')) :
    LeAll (capsL (a ++ b)) (capsL (a' ++ b')) :=
  capsL_append a b ▸ capsL_append a' b' ▸ List.rel_append h1 h2
theorem capsL_append_congr {a b a' b' : List (Nat × Nat)} (h1 : capsL a = capsL a') (h2 : capsL b = capsL b') :
    capsL (a ++ b) = capsL (a' ++ b') :=
  capsL_append a b ▸ capsL_append a' b' ▸ congrArg₂ _ h1 h2

section RegionDefs
variable {R V I : Type} [Region R V I] [RegionAux R]
/-- bytes in use, summed over the pairs `heap_size` reports -/
def totalUsed (r : R) : Nat := usedL (RegionAux.heap r)
/-- the capacities `heap_size` reports, in callback order -/
def capsOf (r : R) : List Nat := capsL (RegionAux.heap r)
end RegionDefs

/-- the capacity invariant of a region, chosen per type: every vector in it has length ≤ capacity; `True` where
nothing is reported or the capacity is not modelled (the coded regions); for `ConsecPairs` also that the leading
offset is accounted -/
class HeapInv (R : Type) {V I : outParam Type} [Region R V I] [RegionAux R] where
  CapInv : R → Prop

open HeapInv in
/-- C18, per region type: the capacity invariant is established by every constructor of region
values and preserved by every operation (with arbitrary sources for the sizing calls); under it
`heap_size` is sound, and the bytes in use never decrease on push nor grow on clear. -/
class LawfulHeap (R : Type) {V I : outParam Type} [Region R V I] [RegionAux R] [HeapInv R] : Prop where
  cap_default : CapInv (default : R)
  cap_push : ∀ (r r' : R) (v : V) (i : I), CapInv r → push r v = some (r', i) → CapInv r'
  cap_clear : ∀ r : R, CapInv r → CapInv (clear r)
  cap_reserveItems : ∀ (r : R) (vs : List V), CapInv r → CapInv (RegionAux.reserveItems r vs)
  cap_reserveRegions : ∀ (r : R) (rs : List R), CapInv r → CapInv (RegionAux.reserveRegions r rs)
  cap_merge : ∀ rs : List R, CapInv (RegionAux.mergeRegions rs)
  cap_clone : ∀ r : R, CapInv r → CapInv (RegionAux.clone r)
  cap_cloneFrom : ∀ d s : R, CapInv d → CapInv s → CapInv (RegionAux.cloneFrom d s)
  heap_ok : ∀ r : R, CapInv r → ∀ p ∈ RegionAux.heap r, p.1 ≤ p.2
  used_push : ∀ (r r' : R) (v : V) (i : I), CapInv r → push r v = some (r', i) → totalUsed r ≤ totalUsed r'
  used_clear_le : ∀ r : R, CapInv r → totalUsed (clear r) ≤ totalUsed r

/-- `clear` keeps the allocations: the same pairs are reported, no capacity smaller than before
(all regions whose capacities are modelled, i.e. all but the dictionary-coded one) -/
class KeepsCaps (R : Type) {V I : outParam Type} [Region R V I] [RegionAux R] [HeapInv R] : Prop where
  caps_clear : ∀ r : R, HeapInv.CapInv r → LeAll (capsOf r) (capsOf (clear r))

/-- regions whose `clear` leaves exactly the bytes a fresh region accounts (all but columns) -/
class ClearsToDefault (R : Type) {V I : outParam Type} [Region R V I] [RegionAux R] [HeapInv R] : Prop where
  used_clear : ∀ r : R, HeapInv.CapInv r → totalUsed (clear r) = totalUsed (default : R)

/-! #### pushes keep the invariant and never decrease the bytes in use

The push of a composite is some pushes into each of its parts (`Pushes`, `IdxPushes`; the lemmas
`result_pushes`, `slice_pushes`, … next to the laws of each constructor), so its two push laws are
these two facts about the parts. -/

theorem Pushes.heap {R V I : Type} [Region R V I] [RegionAux R] [HeapInv R] [LawfulHeap R] {r r' : R}
    (hp : Pushes r r') (h : HeapInv.CapInv r) : HeapInv.CapInv r' ∧ totalUsed r ≤ totalUsed r' :=
  hp.closed (S := fun x => HeapInv.CapInv x ∧ totalUsed r ≤ totalUsed x) (fun _ _ _ _ ha h1 =>
    ⟨LawfulHeap.cap_push _ _ _ _ ha.1 h1, Nat.le_trans ha.2 (LawfulHeap.used_push _ _ _ _ ha.1 h1)⟩) ⟨h, Nat.le_refl _⟩

theorem IdxPushes.heap {O T : Type} [IdxCont O T] [IdxAux O] [IdxHeapInv O] [LawfulIdxHeap O] {c c' : O}
    (hp : IdxPushes c c') (h : IdxHeapInv.CapInv c) : IdxHeapInv.CapInv c' ∧ usedI c ≤ usedI c' :=
  hp.closed (S := fun x => IdxHeapInv.CapInv x ∧ usedI c ≤ usedI x) (fun _ x ha =>
    ⟨LawfulIdxHeap.cap_push _ x ha.1, Nat.le_trans ha.2 (LawfulIdxHeap.used_push _ x ha.1)⟩) ⟨h, Nat.le_refl _⟩

section Trivial
variable {R V I : Type} [Region R V I] [RegionAux R] [HeapInv R]

theorem LawfulHeap.of_forall_capInv (hinv : ∀ r : R, HeapInv.CapInv r)
    (heap_ok : ∀ r : R, ∀ p ∈ RegionAux.heap r, p.1 ≤ p.2)
    (used_push : ∀ (r r' : R) (v : V) (i : I), push r v = some (r', i) → totalUsed r ≤ totalUsed r')
    (used_clear_le : ∀ r : R, totalUsed (clear r) ≤ totalUsed r) : LawfulHeap R where
  cap_default := hinv _
  cap_push _ _ _ _ _ _ := hinv _
  cap_clear _ _ := hinv _
  cap_reserveItems _ _ _ := hinv _
  cap_reserveRegions _ _ _ := hinv _
  cap_merge _ := hinv _
  cap_clone _ _ := hinv _
  cap_cloneFrom _ _ _ _ := hinv _
  heap_ok r _ := heap_ok r
  used_push r r' v i _ := used_push r r' v i
  used_clear_le r _ := used_clear_le r

theorem LawfulHeap.of_heap_nil (hinv : ∀ r : R, HeapInv.CapInv r) (hnil : ∀ r : R, RegionAux.heap r = []) :
    LawfulHeap R := by
  have hu : ∀ r r' : R, totalUsed r ≤ totalUsed r' := fun r r' => by
    rw [totalUsed, totalUsed, hnil, hnil]
    exact Nat.le_refl _
  refine .of_forall_capInv hinv (fun r p hp => ?_) (fun r r' _ _ _ => hu r r') fun r => hu _ r
  rw [hnil] at hp
  cases hp

theorem ClearsToDefault.of_heap_nil (hnil : ∀ r : R, RegionAux.heap r = []) : ClearsToDefault R :=
  ⟨fun r _ => by rw [totalUsed, totalUsed, hnil, hnil]⟩

theorem KeepsCaps.of_heap_nil (hnil : ∀ r : R, RegionAux.heap r = []) : KeepsCaps R :=
  ⟨fun r _ => by
    rw [capsOf, capsOf, hnil, hnil]
    exact .nil⟩
end Trivial

instance (T : Type) : HeapInv (MirrorRegion T) := ⟨fun _ => True⟩
instance (T : Type) : LawfulHeap (MirrorRegion T) := .of_heap_nil (fun _ => trivial) fun _ => rfl
instance (T : Type) : ClearsToDefault (MirrorRegion T) := .of_heap_nil fun _ => rfl
instance (T : Type) : KeepsCaps (MirrorRegion T) := .of_heap_nil fun _ => rfl

instance : HeapInv TupleNil := ⟨fun _ => True⟩
instance : LawfulHeap TupleNil := .of_heap_nil (fun _ => trivial) fun _ => rfl
instance : ClearsToDefault TupleNil := .of_heap_nil fun _ => rfl
instance : KeepsCaps TupleNil := .of_heap_nil fun _ => rfl

/-! Huffman containers: `heap_size` is `todo!()` in the crate, the model reports nothing -/
instance : HeapInv Huff.Container := ⟨fun _ => True⟩
instance : LawfulHeap Huff.Container := .of_heap_nil (fun _ => trivial) fun _ => rfl
instance : ClearsToDefault Huff.Container := .of_heap_nil fun _ => rfl
instance : KeepsCaps Huff.Container := .of_heap_nil fun _ => rfl

instance : HeapInv HuffU8 := ⟨fun _ => True⟩
instance : LawfulHeap HuffU8 := .of_heap_nil (fun _ => trivial) fun _ => rfl
instance : ClearsToDefault HuffU8 := .of_heap_nil fun _ => rfl
instance : KeepsCaps HuffU8 := .of_heap_nil fun _ => rfl

/-! #### the dictionary-coded region

`Model/Coded.lean` reports the byte store as `(len, len)`: its capacity is not modelled, so `clear`
(which in the model returns `default`) makes the reported capacity shrink and there is no `KeepsCaps`
instance. Soundness, monotonicity and the accounting of `clear` hold. -/
instance : HeapInv Codec.Region := ⟨fun _ => True⟩

/-- the sum over the one reported pair is `_ + 0` -/
theorem codec_used (r : Codec.Region) : totalUsed r = r.inner.length := Nat.add_zero _

instance : LawfulHeap Codec.Region := by
  refine .of_forall_capInv (fun _ => trivial) (fun r => List.forall_mem_singleton.mpr (Nat.le_refl _))
    (fun r r' v i hp => ?_) (fun r => ?_)
  · rw [codec_used, codec_used]
    simp only [Region.push, Codec.Region.push] at hp
    split at hp
    · cases hp
    · cases hp
      simp
  · rw [codec_used, codec_used]
    exact Nat.zero_le _
instance : ClearsToDefault Codec.Region := ⟨fun _ _ => rfl⟩

instance (T : Type) [ElemSize T] : HeapInv (OwnedRegion T) := ⟨fun r => r.slices.WF⟩

theorem owned_used {T : Type} [ElemSize T] (r : OwnedRegion T) :
    totalUsed r = r.slices.data.length * ElemSize.bytes T := Nat.add_zero _

instance (T : Type) [ElemSize T] : LawfulHeap (OwnedRegion T) where
  cap_default := MVec.wf_empty
  cap_push r r' v i _ hp := by
    cases hp
    exact MVec.wf_extend _ _
  cap_clear r _ := MVec.wf_clear _
  cap_reserveItems r vs _ := MVec.wf_reserve _ _
  cap_reserveRegions r rs _ := MVec.wf_reserve _ _
  cap_merge rs := MVec.wf_withCapacity _
  cap_clone r _ := MVec.wf_clone _
  cap_cloneFrom d s _ _ := MVec.wf_cloneFrom _ _
  heap_ok r h := List.forall_mem_singleton.mpr (MVec.heap_ok _ _ h)
  used_push r r' v i _ hp := by
    cases hp
    rw [owned_used, owned_used, MVec.extend_data, List.length_append]
    exact Nat.mul_le_mul_right _ (Nat.le_add_right _ _)
  used_clear_le r _ := by
    rw [owned_used, owned_used]
    exact Nat.mul_le_mul_right _ (Nat.zero_le _)
instance (T : Type) [ElemSize T] : ClearsToDefault (OwnedRegion T) := ⟨fun _ _ => rfl⟩
instance (T : Type) [ElemSize T] : KeepsCaps (OwnedRegion T) := ⟨fun _ _ => leAll_refl _⟩

instance (T : Type) [ElemSize T] : HeapInv (VecRegion T) := ⟨fun r => r.v.WF⟩

theorem vec_used {T : Type} [ElemSize T] (r : VecRegion T) :
    totalUsed r = r.v.data.length * ElemSize.bytes T := Nat.add_zero _

instance (T : Type) [ElemSize T] : LawfulHeap (VecRegion T) where
  cap_default := MVec.wf_empty
  cap_push r r' v i _ hp := by
    cases hp
    exact MVec.wf_push _ _
  cap_clear r _ := MVec.wf_clear _
  cap_reserveItems r vs _ := MVec.wf_reserve _ _
  cap_reserveRegions r rs _ := MVec.wf_reserve _ _
  cap_merge rs := MVec.wf_withCapacity _
  cap_clone r _ := MVec.wf_clone _
  cap_cloneFrom d s _ _ := MVec.wf_cloneFrom _ _
  heap_ok r h := List.forall_mem_singleton.mpr (MVec.heap_ok _ _ h)
  used_push r r' v i _ hp := by
    cases hp
    rw [vec_used, vec_used, MVec.push_data, List.length_append]
    exact Nat.mul_le_mul_right _ (Nat.le_add_right _ _)
  used_clear_le r _ := by
    rw [vec_used, vec_used]
    exact Nat.mul_le_mul_right _ (Nat.zero_le _)
instance (T : Type) [ElemSize T] : ClearsToDefault (VecRegion T) := ⟨fun _ _ => rfl⟩
instance (T : Type) [ElemSize T] : KeepsCaps (VecRegion T) := ⟨fun _ _ => leAll_refl _⟩

section String
variable {R I : Type} [Region R (List UInt8) I] [RegionAux R] [HeapInv R]

instance : HeapInv (StringRegion R) := ⟨fun r => HeapInv.CapInv r.inner⟩

instance instLawfulHeapStringRegionListUInt8 [LawfulHeap R] : LawfulHeap (StringRegion R) where
  cap_default := LawfulHeap.cap_default (R := R)
  cap_push _ _ _ _ h hp := ((string_pushes hp).heap h).1
  cap_clear r h := LawfulHeap.cap_clear r.inner h
  cap_reserveItems r vs h := LawfulHeap.cap_reserveItems r.inner vs h
  cap_reserveRegions r rs h := LawfulHeap.cap_reserveRegions r.inner (rs.map (·.inner)) h
  cap_merge rs := LawfulHeap.cap_merge (rs.map (·.inner))
  cap_clone r h := LawfulHeap.cap_clone r.inner h
  cap_cloneFrom d s hd hs := LawfulHeap.cap_cloneFrom d.inner s.inner hd hs
  heap_ok r h := LawfulHeap.heap_ok r.inner h
  used_push _ _ _ _ h hp := ((string_pushes hp).heap h).2
  used_clear_le r h := LawfulHeap.used_clear_le r.inner h
instance [ClearsToDefault R] : ClearsToDefault (StringRegion R) := ⟨fun r h => ClearsToDefault.used_clear r.inner h⟩
instance [KeepsCaps R] : KeepsCaps (StringRegion R) := ⟨fun r h => KeepsCaps.caps_clear r.inner h⟩
end String

section Option
variable {R V I : Type} [Region R V I] [RegionAux R] [HeapInv R]

instance : HeapInv (OptionRegion R) := ⟨fun r => HeapInv.CapInv r.inner⟩

instance instLawfulHeapOptionRegionOption [LawfulHeap R] : LawfulHeap (OptionRegion R) where
  cap_default := LawfulHeap.cap_default (R := R)
  cap_push _ _ _ _ h hp := ((option_pushes hp).heap h).1
  cap_clear r h := LawfulHeap.cap_clear r.inner h
  cap_reserveItems r vs h := LawfulHeap.cap_reserveItems r.inner (vs.filterMap id) h
  cap_reserveRegions r rs h := LawfulHeap.cap_reserveRegions r.inner (rs.map (·.inner)) h
  cap_merge rs := LawfulHeap.cap_merge (rs.map (·.inner))
  cap_clone r h := LawfulHeap.cap_clone r.inner h
  cap_cloneFrom d s hd hs := LawfulHeap.cap_cloneFrom d.inner s.inner hd hs
  heap_ok r h := LawfulHeap.heap_ok r.inner h
  used_push _ _ _ _ h hp := ((option_pushes hp).heap h).2
  used_clear_le r h := LawfulHeap.used_clear_le r.inner h
instance [ClearsToDefault R] : ClearsToDefault (OptionRegion R) := ⟨fun r h => ClearsToDefault.used_clear r.inner h⟩
instance [KeepsCaps R] : KeepsCaps (OptionRegion R) := ⟨fun r h => KeepsCaps.caps_clear r.inner h⟩
end Option

section Result
variable {T VT IT E VE IE : Type} [Region T VT IT] [Region E VE IE] [RegionAux T] [RegionAux E]

theorem result_used (r : ResultRegion T E) : totalUsed r = totalUsed r.oks + totalUsed r.errs :=
  usedL_append _ _
theorem result_caps (r : ResultRegion T E) : capsOf r = capsOf r.oks ++ capsOf r.errs :=
  capsL_append _ _

variable [HeapInv T] [HeapInv E]

instance : HeapInv (ResultRegion T E) := ⟨fun r => HeapInv.CapInv r.oks ∧ HeapInv.CapInv r.errs⟩

instance instLawfulHeapResultRegionExcept [LawfulHeap T] [LawfulHeap E] : LawfulHeap (ResultRegion T E) where
  cap_default := ⟨LawfulHeap.cap_default (R := T), LawfulHeap.cap_default (R := E)⟩
  cap_push _ _ _ _ h hp := ⟨((result_pushes hp).1.heap h.1).1, ((result_pushes hp).2.heap h.2).1⟩
  cap_clear r h := ⟨LawfulHeap.cap_clear r.oks h.1, LawfulHeap.cap_clear r.errs h.2⟩
  cap_reserveItems r _ h := ⟨LawfulHeap.cap_reserveItems r.oks _ h.1, LawfulHeap.cap_reserveItems r.errs _ h.2⟩
  cap_reserveRegions r rs h :=
    ⟨LawfulHeap.cap_reserveRegions r.oks (rs.map (·.oks)) h.1, LawfulHeap.cap_reserveRegions r.errs (rs.map (·.errs)) h.2⟩
  cap_merge rs := ⟨LawfulHeap.cap_merge (rs.map (·.oks)), LawfulHeap.cap_merge (rs.map (·.errs))⟩
  cap_clone r h := ⟨LawfulHeap.cap_clone r.oks h.1, LawfulHeap.cap_clone r.errs h.2⟩
  cap_cloneFrom d s hd hs :=
    ⟨LawfulHeap.cap_cloneFrom d.oks s.oks hd.1 hs.1, LawfulHeap.cap_cloneFrom d.errs s.errs hd.2 hs.2⟩
  heap_ok r h := List.forall_mem_append.mpr ⟨LawfulHeap.heap_ok r.oks h.1, LawfulHeap.heap_ok r.errs h.2⟩
  used_push _ _ _ _ h hp := usedL_append_le ((result_pushes hp).1.heap h.1).2 ((result_pushes hp).2.heap h.2).2
  used_clear_le r h := usedL_append_le (LawfulHeap.used_clear_le r.oks h.1) (LawfulHeap.used_clear_le r.errs h.2)
instance [ClearsToDefault T] [ClearsToDefault E] : ClearsToDefault (ResultRegion T E) where
  used_clear r h := usedL_append_congr (ClearsToDefault.used_clear r.oks h.1) (ClearsToDefault.used_clear r.errs h.2)
instance [KeepsCaps T] [KeepsCaps E] : KeepsCaps (ResultRegion T E) where
  caps_clear r h := capsL_append_le (KeepsCaps.caps_clear r.oks h.1) (KeepsCaps.caps_clear r.errs h.2)
end Result

section Tuple
variable {A VA IA B VB IB : Type} [Region A VA IA] [Region B VB IB] [RegionAux A] [RegionAux B]

theorem tuple_used (r : TupleCons A B) : totalUsed r = totalUsed r.head + totalUsed r.tail :=
  usedL_append _ _
theorem tuple_caps (r : TupleCons A B) : capsOf r = capsOf r.head ++ capsOf r.tail :=
  capsL_append _ _

variable [HeapInv A] [HeapInv B]

instance : HeapInv (TupleCons A B) := ⟨fun r => HeapInv.CapInv r.head ∧ HeapInv.CapInv r.tail⟩

instance instLawfulHeapTupleConsProd [LawfulHeap A] [LawfulHeap B] : LawfulHeap (TupleCons A B) where
  cap_default := ⟨LawfulHeap.cap_default (R := A), LawfulHeap.cap_default (R := B)⟩
  cap_push _ _ _ _ h hp := ⟨((tuple_pushes hp).1.heap h.1).1, ((tuple_pushes hp).2.heap h.2).1⟩
  cap_clear r h := ⟨LawfulHeap.cap_clear r.head h.1, LawfulHeap.cap_clear r.tail h.2⟩
  cap_reserveItems r _ h := ⟨LawfulHeap.cap_reserveItems r.head _ h.1, LawfulHeap.cap_reserveItems r.tail _ h.2⟩
  cap_reserveRegions r rs h :=
    ⟨LawfulHeap.cap_reserveRegions r.head (rs.map (·.head)) h.1, LawfulHeap.cap_reserveRegions r.tail (rs.map (·.tail)) h.2⟩
  cap_merge rs := ⟨LawfulHeap.cap_merge (rs.map (·.head)), LawfulHeap.cap_merge (rs.map (·.tail))⟩
  cap_clone r h := ⟨LawfulHeap.cap_clone r.head h.1, LawfulHeap.cap_clone r.tail h.2⟩
  cap_cloneFrom d s hd hs :=
    ⟨LawfulHeap.cap_cloneFrom d.head s.head hd.1 hs.1, LawfulHeap.cap_cloneFrom d.tail s.tail hd.2 hs.2⟩
  heap_ok r h := List.forall_mem_append.mpr ⟨LawfulHeap.heap_ok r.head h.1, LawfulHeap.heap_ok r.tail h.2⟩
  used_push _ _ _ _ h hp := usedL_append_le ((tuple_pushes hp).1.heap h.1).2 ((tuple_pushes hp).2.heap h.2).2
  used_clear_le r h := usedL_append_le (LawfulHeap.used_clear_le r.head h.1) (LawfulHeap.used_clear_le r.tail h.2)
instance [ClearsToDefault A] [ClearsToDefault B] : ClearsToDefault (TupleCons A B) where
  used_clear r h := usedL_append_congr (ClearsToDefault.used_clear r.head h.1) (ClearsToDefault.used_clear r.tail h.2)
instance [KeepsCaps A] [KeepsCaps B] : KeepsCaps (TupleCons A B) where
  caps_clear r h := capsL_append_le (KeepsCaps.caps_clear r.head h.1) (KeepsCaps.caps_clear r.tail h.2)
end Tuple

section Collapse
variable {R V I : Type} [Region R V I] [HasEqv V] [RegionAux R] [IndexSize I] [HeapInv R]

instance : HeapInv (CollapseSequence R I) := ⟨fun r => HeapInv.CapInv r.inner⟩

instance instLawfulHeapCollapseSequence [LawfulHeap R] : LawfulHeap (CollapseSequence R I) where
  cap_default := LawfulHeap.cap_default (R := R)
  cap_push _ _ _ _ h hp := ((collapse_pushes hp).heap h).1
  cap_clear r h := LawfulHeap.cap_clear r.inner h
  cap_reserveItems _ _ h := h
  cap_reserveRegions r rs h := LawfulHeap.cap_reserveRegions r.inner (rs.map (·.inner)) h
  cap_merge rs := LawfulHeap.cap_merge (rs.map (·.inner))
  cap_clone r h := LawfulHeap.cap_clone r.inner h
  cap_cloneFrom d s hd hs := LawfulHeap.cap_cloneFrom d.inner s.inner hd hs
  heap_ok r h := LawfulHeap.heap_ok r.inner h
  used_push _ _ _ _ h hp := ((collapse_pushes hp).heap h).2
  used_clear_le r h := LawfulHeap.used_clear_le r.inner h
instance [ClearsToDefault R] : ClearsToDefault (CollapseSequence R I) :=
  ⟨fun r h => ClearsToDefault.used_clear r.inner h⟩
instance [KeepsCaps R] : KeepsCaps (CollapseSequence R I) := ⟨fun r h => KeepsCaps.caps_clear r.inner h⟩
end Collapse

section Slice
variable {R V I O : Type} [Region R V I] [IdxCont O I] [RegionAux R] [IdxAux O]

theorem slice_used (r : SliceRegion R O) : totalUsed r = usedI r.slices + totalUsed r.inner :=
  usedL_append _ _
theorem slice_caps (r : SliceRegion R O) : capsOf r = capsI r.slices ++ capsOf r.inner :=
  capsL_append _ _

variable [HeapInv R] [IdxHeapInv O]

instance : HeapInv (SliceRegion R O) := ⟨fun r => IdxHeapInv.CapInv r.slices ∧ HeapInv.CapInv r.inner⟩

instance instLawfulHeapSliceRegionListProdNatOfLawfulIdxHeap [LawfulHeap R] [LawfulIdxHeap O] :
    LawfulHeap (SliceRegion R O) where
  cap_default := ⟨LawfulIdxHeap.cap_default (O := O), LawfulHeap.cap_default (R := R)⟩
  cap_push _ _ _ _ h hp := ⟨((slice_pushes hp).2.heap h.1).1, ((slice_pushes hp).1.heap h.2).1⟩
  cap_clear r h := ⟨LawfulIdxHeap.cap_clear r.slices h.1, LawfulHeap.cap_clear r.inner h.2⟩
  cap_reserveItems r _ h := ⟨LawfulIdxHeap.cap_reserve r.slices _ h.1, LawfulHeap.cap_reserveItems r.inner _ h.2⟩
  cap_reserveRegions r rs h :=
    ⟨LawfulIdxHeap.cap_reserve r.slices _ h.1, LawfulHeap.cap_reserveRegions r.inner (rs.map (·.inner)) h.2⟩
  cap_merge rs := ⟨LawfulIdxHeap.cap_merge (rs.map (·.slices)), LawfulHeap.cap_merge (rs.map (·.inner))⟩
  cap_clone r h := ⟨LawfulIdxHeap.cap_clone r.slices h.1, LawfulHeap.cap_clone r.inner h.2⟩
  cap_cloneFrom d s hd hs :=
    ⟨LawfulIdxHeap.cap_cloneFrom d.slices s.slices hd.1 hs.1, LawfulHeap.cap_cloneFrom d.inner s.inner hd.2 hs.2⟩
  heap_ok r h := List.forall_mem_append.mpr ⟨LawfulIdxHeap.heap_ok r.slices h.1, LawfulHeap.heap_ok r.inner h.2⟩
  used_push _ _ _ _ h hp := usedL_append_le ((slice_pushes hp).2.heap h.1).2 ((slice_pushes hp).1.heap h.2).2
  used_clear_le r h := usedL_append_le (LawfulIdxHeap.used_clear_le r.slices h.1) (LawfulHeap.used_clear_le r.inner h.2)
instance [LawfulIdxHeap O] [ClearsToDefault R] : ClearsToDefault (SliceRegion R O) where
  used_clear r h := usedL_append_congr (LawfulIdxHeap.used_clear r.slices h.1) (ClearsToDefault.used_clear r.inner h.2)
instance [LawfulIdxHeap O] [KeepsCaps R] : KeepsCaps (SliceRegion R O) where
  caps_clear r h := capsL_append_le (LawfulIdxHeap.caps_clear r.slices h.1) (KeepsCaps.caps_clear r.inner h.2)
end Slice

section Consec
variable {R V O : Type} [Region R V (Nat × Nat)] [DenseRegion R] [IdxCont O Nat] [RegionAux R] [IdxAux O]

theorem consec_used (r : ConsecPairs R O) : totalUsed r = usedI r.indices + totalUsed r.inner :=
  usedL_append _ _
theorem consec_caps (r : ConsecPairs R O) : capsOf r = capsI r.indices ++ capsOf r.inner :=
  capsL_append _ _

variable [HeapInv R] [IdxHeapInv O]

/-- both parts satisfy their capacity invariant, and the leading offset `0` — which `default`,
`clear` and `merge_regions` write — is accounted for -/
instance : HeapInv (ConsecPairs R O) :=
  ⟨fun r => HeapInv.CapInv r.inner ∧ IdxHeapInv.CapInv r.indices ∧
    usedI (IdxCont.push (IdxCont.default : O) 0) ≤ usedI r.indices⟩

instance instLawfulHeapConsecPairsNatOfProdOfLawfulIdxHeap [LawfulHeap R] [LawfulIdxHeap O] :
    LawfulHeap (ConsecPairs R O) where
  cap_default := ⟨LawfulHeap.cap_default (R := R),
    LawfulIdxHeap.cap_push _ 0 (LawfulIdxHeap.cap_default (O := O)), Nat.le_refl _⟩
  cap_push _ _ _ _ h hp :=
    have hi := (consec_pushes hp).2.heap h.2.1
    ⟨((consec_pushes hp).1.heap h.1).1, hi.1, Nat.le_trans h.2.2 hi.2⟩
  cap_clear r h := ⟨LawfulHeap.cap_clear r.inner h.1,
    LawfulIdxHeap.cap_push _ 0 (LawfulIdxHeap.cap_clear r.indices h.2.1),
    Nat.le_of_eq (LawfulIdxHeap.used_clear_push r.indices 0 h.2.1).symm⟩
  cap_reserveItems r vs h := ⟨LawfulHeap.cap_reserveItems r.inner vs h.1, h.2⟩
  cap_reserveRegions r rs h := ⟨LawfulHeap.cap_reserveRegions r.inner (rs.map (·.inner)) h.1, h.2⟩
  cap_merge rs := ⟨LawfulHeap.cap_merge (rs.map (·.inner)),
    LawfulIdxHeap.cap_push _ 0 (LawfulIdxHeap.cap_default (O := O)), Nat.le_refl _⟩
  cap_clone r h := ⟨LawfulHeap.cap_clone r.inner h.1, LawfulIdxHeap.cap_clone r.indices h.2.1,
    le_of_le_of_eq h.2.2 (LawfulIdxHeap.used_clone r.indices h.2.1).symm⟩
  cap_cloneFrom d s hd hs := ⟨LawfulHeap.cap_cloneFrom d.inner s.inner hd.1 hs.1,
    LawfulIdxHeap.cap_cloneFrom d.indices s.indices hd.2.1 hs.2.1,
    le_of_le_of_eq hs.2.2 (LawfulIdxHeap.used_cloneFrom d.indices s.indices hd.2.1 hs.2.1).symm⟩
  heap_ok r h := List.forall_mem_append.mpr ⟨LawfulIdxHeap.heap_ok r.indices h.2.1, LawfulHeap.heap_ok r.inner h.1⟩
  used_push _ _ _ _ h hp := usedL_append_le ((consec_pushes hp).2.heap h.2.1).2 ((consec_pushes hp).1.heap h.1).2
  used_clear_le r h := usedL_append_le (le_of_eq_of_le (LawfulIdxHeap.used_clear_push r.indices 0 h.2.1) h.2.2)
      (LawfulHeap.used_clear_le r.inner h.1)
instance [LawfulIdxHeap O] [ClearsToDefault R] : ClearsToDefault (ConsecPairs R O) where
  used_clear r h := usedL_append_congr (LawfulIdxHeap.used_clear_push r.indices 0 h.2.1) (ClearsToDefault.used_clear r.inner h.1)
instance [LawfulIdxHeap O] [KeepsCaps R] : KeepsCaps (ConsecPairs R O) where
  caps_clear r h := capsL_append_le (leAll_trans (LawfulIdxHeap.caps_clear r.indices h.2.1)
      (LawfulIdxHeap.caps_push _ 0 (LawfulIdxHeap.cap_clear r.indices h.2.1))) (KeepsCaps.caps_clear r.inner h.1)
end Consec

section Stack
variable {R V I S : Type} [Region R V I] [IdxCont S I] [RegionAux R] [IdxAux S]

theorem stack_used (fs : FlatStack R S) : totalUsed fs = totalUsed fs.region + usedI fs.indices :=
  usedL_append _ _
theorem stack_caps (fs : FlatStack R S) : capsOf fs = capsOf fs.region ++ capsI fs.indices :=
  capsL_append _ _

variable [HeapInv R] [IdxHeapInv S]

instance : HeapInv (FlatStack R S) := ⟨fun fs => HeapInv.CapInv fs.region ∧ IdxHeapInv.CapInv fs.indices⟩

instance instLawfulHeapFlatStackNatOfLawfulIdxHeap [LawfulHeap R] [LawfulIdxHeap S] : LawfulHeap (FlatStack R S) where
  cap_default := ⟨LawfulHeap.cap_default (R := R), LawfulIdxHeap.cap_default (O := S)⟩
  cap_push _ _ _ _ h hp := ⟨((stack_pushes hp).1.heap h.1).1, ((stack_pushes hp).2.heap h.2).1⟩
  cap_clear fs h := ⟨LawfulHeap.cap_clear fs.region h.1, LawfulIdxHeap.cap_clear fs.indices h.2⟩
  cap_reserveItems fs vs h := ⟨LawfulHeap.cap_reserveItems fs.region vs h.1, h.2⟩
  cap_reserveRegions fs rs h := ⟨LawfulHeap.cap_reserveRegions fs.region (rs.map (·.region)) h.1, h.2⟩
  cap_merge rs := ⟨LawfulHeap.cap_merge (rs.map (·.region)), LawfulIdxHeap.cap_merge (rs.map (·.indices))⟩
  cap_clone fs h := ⟨LawfulHeap.cap_clone fs.region h.1, LawfulIdxHeap.cap_clone fs.indices h.2⟩
  cap_cloneFrom d s hd hs :=
    ⟨LawfulHeap.cap_cloneFrom d.region s.region hd.1 hs.1, LawfulIdxHeap.cap_cloneFrom d.indices s.indices hd.2 hs.2⟩
  heap_ok fs h := List.forall_mem_append.mpr ⟨LawfulHeap.heap_ok fs.region h.1, LawfulIdxHeap.heap_ok fs.indices h.2⟩
  used_push _ _ _ _ h hp := usedL_append_le ((stack_pushes hp).1.heap h.1).2 ((stack_pushes hp).2.heap h.2).2
  used_clear_le fs h := usedL_append_le (LawfulHeap.used_clear_le fs.region h.1) (LawfulIdxHeap.used_clear_le fs.indices h.2)
instance [LawfulIdxHeap S] [ClearsToDefault R] : ClearsToDefault (FlatStack R S) where
  used_clear fs h := usedL_append_congr (ClearsToDefault.used_clear fs.region h.1) (LawfulIdxHeap.used_clear fs.indices h.2)
instance [LawfulIdxHeap S] [KeepsCaps R] : KeepsCaps (FlatStack R S) where
  caps_clear fs h := capsL_append_le (KeepsCaps.caps_clear fs.region h.1) (LawfulIdxHeap.caps_clear fs.indices h.2)

theorem FlatStack.reserve_capInv [LawfulIdxHeap S] (fs : FlatStack R S) (n : Nat) (h : HeapInv.CapInv fs) :
    HeapInv.CapInv (fs.reserve n) := ⟨h.1, LawfulIdxHeap.cap_reserve fs.indices n h.2⟩
theorem FlatStack.withCapacity_capInv [LawfulHeap R] [LawfulIdxHeap S] (n : Nat) :
    HeapInv.CapInv (FlatStack.withCapacity n : FlatStack R S) :=
  ⟨LawfulHeap.cap_default (R := R), LawfulIdxHeap.cap_withCapacity n⟩
end Stack

section Cols
variable {R V I : Type} [Region R V I] [RegionAux R]

theorem padCols_used (cs : List R) (n : Nat) : (cs.map totalUsed).sum ≤ ((padCols cs n).map totalUsed).sum := by
  rw [padCols, List.map_append, List.sum_append]
  exact Nat.le_add_right _ _

variable [HeapInv R]

theorem cols_pushes_heap [LawfulHeap R] {cs cs' : List R} (hp : List.Forall₂ Pushes cs cs')
    (hc : ∀ c ∈ cs, HeapInv.CapInv c) :
    (∀ c ∈ cs', HeapInv.CapInv c) ∧ (cs.map totalUsed).sum ≤ (cs'.map totalUsed).sum := by
  induction hp with
  | nil => exact ⟨hc, Nat.le_refl _⟩
  | cons h _ ih =>
    rw [List.forall_mem_cons] at hc ⊢
    simp only [List.map_cons, List.sum_cons]
    exact ⟨⟨(h.heap hc.1).1, (ih hc.2).1⟩, Nat.add_le_add (h.heap hc.1).2 (ih hc.2).2⟩

theorem padCols_capInv [LawfulHeap R] (cs : List R) (n : Nat) (hc : ∀ c ∈ cs, HeapInv.CapInv c) :
    ∀ c ∈ padCols cs n, HeapInv.CapInv c :=
  fun c h => (mem_padCols.mp h).elim (hc c) fun h => h.2 ▸ LawfulHeap.cap_default

end Cols

section Columns
variable {R V I O : Type} [Region R V I] [IdxCont O Nat] [RegionAux R] [IdxAux O] [ElemSize I]

theorem columns_used (r : ColumnsRegion R I O) :
    totalUsed r = r.cols.length * RegionAux.selfSize R + (r.cols.map totalUsed).sum + totalUsed r.indices := by
  show usedL (_ ++ _ ++ _) = _
  rw [usedL_append, usedL_append, usedL_flatten, List.map_map]
  exact congrArg (· + _ + _) (Nat.add_zero _)

theorem columns_caps (r : ColumnsRegion R I O) :
    capsOf r = [r.cols.length * RegionAux.selfSize R] ++ (r.cols.map capsOf).flatten ++ capsOf r.indices := by
  show capsL (_ ++ _ ++ _) = _
  rw [capsL_append, capsL_append, capsL_flatten, List.map_map]
  rfl

theorem columns_used_clear (r : ColumnsRegion R I O) :
    totalUsed (clear r) = r.cols.length * RegionAux.selfSize R + (r.cols.map fun c => totalUsed (clear c)).sum
      + totalUsed (clear r.indices) := by
  rw [columns_used]
  show (r.cols.map clear).length * _ + ((r.cols.map clear).map totalUsed).sum + _ = _
  rw [List.length_map, List.map_map]
  rfl

theorem columns_caps_clear (r : ColumnsRegion R I O) :
    capsOf (clear r) = [r.cols.length * RegionAux.selfSize R] ++ (r.cols.map fun c => capsOf (clear c)).flatten
      ++ capsOf (clear r.indices) := by
  rw [columns_caps]
  show [(r.cols.map clear).length * _] ++ ((r.cols.map clear).map capsOf).flatten ++ _ = _
  rw [List.length_map, List.map_map]
  rfl

variable [HeapInv R] [IdxHeapInv O]

instance : HeapInv (ColumnsRegion R I O) :=
  ⟨fun r => HeapInv.CapInv r.indices ∧ ∀ c ∈ r.cols, HeapInv.CapInv c⟩

theorem columns_used_clear_default [LawfulIdxHeap O] [ClearsToDefault R] (r : ColumnsRegion R I O) (h : HeapInv.CapInv r) :
    totalUsed (clear r) = r.cols.length * (RegionAux.selfSize R + totalUsed (default : R))
      + totalUsed (default : ConsecPairs (OwnedRegion I) O) := by
  rw [columns_used_clear, ClearsToDefault.used_clear r.indices h.1,
    sum_map_const fun c hc => ClearsToDefault.used_clear c (h.2 c hc), Nat.mul_add]

instance instLawfulHeapColumnsRegionListNatOfLawfulIdxHeap [LawfulHeap R] [LawfulIdxHeap O] :
    LawfulHeap (ColumnsRegion R I O) where
  cap_default := ⟨LawfulHeap.cap_default (R := ConsecPairs (OwnedRegion I) O), fun c hc => nomatch hc⟩
  cap_push r _ row _ h hp :=
    ⟨((columns_pushes hp).2.heap h.1).1,
      (cols_pushes_heap (columns_pushes hp).1 (padCols_capInv r.cols row.length h.2)).1⟩
  cap_clear r h := ⟨LawfulHeap.cap_clear r.indices h.1,
    List.forall_mem_map.mpr fun c hc => LawfulHeap.cap_clear c (h.2 c hc)⟩
  cap_reserveItems _ _ h := h
  cap_reserveRegions r rs h := ⟨h.1, by
    intro c hc
    obtain ⟨k, _, x, hx, rfl⟩ := mem_zipWith_elim _ _ _ _ hc
    exact LawfulHeap.cap_reserveRegions x _ (padCols_capInv r.cols _ h.2 x hx)⟩
  cap_merge rs := ⟨LawfulHeap.cap_merge (rs.map (·.indices)),
    List.forall_mem_map.mpr fun _ _ => LawfulHeap.cap_merge _⟩
  cap_clone r h := ⟨LawfulHeap.cap_clone r.indices h.1,
    List.forall_mem_map.mpr fun c hc => LawfulHeap.cap_clone c (h.2 c hc)⟩
  cap_cloneFrom d s hd hs := ⟨LawfulHeap.cap_cloneFrom d.indices s.indices hd.1 hs.1,
    List.forall_mem_append.mpr ⟨fun c hc => by
      obtain ⟨a, ha, b, hb, rfl⟩ := mem_zipWith_elim _ _ _ _ hc
      exact LawfulHeap.cap_cloneFrom a b (hd.2 a (List.mem_of_mem_take ha)) (hs.2 b hb),
    List.forall_mem_map.mpr fun x hx => LawfulHeap.cap_clone x (hs.2 x (List.mem_of_mem_drop hx))⟩⟩
  heap_ok r h := List.forall_mem_append.mpr ⟨List.forall_mem_append.mpr
    ⟨List.forall_mem_singleton.mpr (Nat.le_refl _),
      List.forall_mem_flatten.mpr (List.forall_mem_map.mpr fun c hc => LawfulHeap.heap_ok c (h.2 c hc))⟩,
    LawfulHeap.heap_ok r.indices h.1⟩
  used_push r _ row _ h hp := by
    rw [columns_used, columns_used]
    obtain ⟨hcols, hind⟩ := columns_pushes hp
    have g := (cols_pushes_heap hcols (padCols_capInv r.cols row.length h.2)).2
    exact Nat.add_le_add (Nat.add_le_add (Nat.mul_le_mul_right _ (hcols.length_eq ▸ length_le_padCols r.cols row.length))
        (Nat.le_trans (padCols_used r.cols row.length) g))
      (hind.heap h.1).2
  used_clear_le r h := by
    rw [columns_used_clear, columns_used]
    exact Nat.add_le_add (Nat.add_le_add_left (sum_map_le fun c hc => LawfulHeap.used_clear_le c (h.2 c hc)) _)
      (LawfulHeap.used_clear_le r.indices h.1)

instance [LawfulIdxHeap O] [KeepsCaps R] : KeepsCaps (ColumnsRegion R I O) where
  caps_clear r h := by
    rw [columns_caps_clear, columns_caps]
    refine List.rel_append (List.rel_append (leAll_refl _) (List.rel_flatten ?_)) (KeepsCaps.caps_clear r.indices h.1)
    rw [List.forall₂_map_left_iff, List.forall₂_map_right_iff]
    exact List.forall₂_same.mpr fun c hc => KeepsCaps.caps_clear c (h.2 c hc)
end Columns

/-! ### lower bound: what is stored is accounted

`stored` is computed from the *contents* (lengths of the data lists and element sizes), never from
`heap`; `stored_le` says the reported used bytes cover it: no vector holding payload or index
entries is forgotten by `heap_size`. -/

class IdxStored (O : Type) {T : outParam Type} [IdxCont O T] [IdxAux O] [IdxHeapInv O] where
  stored : O → Nat
  stored_le : ∀ c : O, IdxHeapInv.CapInv c → stored c ≤ usedI c

instance {C T : Type} [IdxCont C T] [HasStores C] : IdxStored (Capd C) where
  stored c := (List.zipWith (· * ·) (HasStores.lens c.a) (HasStores.sizes C)).sum
  stored_le c h := Nat.le_of_eq (capd_usedI c h).symm

class Stored (R : Type) {V I : outParam Type} [Region R V I] [RegionAux R] [HeapInv R] where
  stored : R → Nat
  stored_le : ∀ r : R, HeapInv.CapInv r → stored r ≤ totalUsed r

instance (T : Type) : Stored (MirrorRegion T) := ⟨fun _ => 0, fun _ _ => Nat.zero_le _⟩
instance (T : Type) [ElemSize T] : Stored (OwnedRegion T) :=
  ⟨fun r => r.slices.data.length * ElemSize.bytes T, fun r _ => Nat.le_of_eq (owned_used r).symm⟩
instance (T : Type) [ElemSize T] : Stored (VecRegion T) :=
  ⟨fun r => r.v.data.length * ElemSize.bytes T, fun r _ => Nat.le_of_eq (vec_used r).symm⟩
instance {R I : Type} [Region R (List UInt8) I] [RegionAux R] [HeapInv R] [Stored R] : Stored (StringRegion R) :=
  ⟨fun r => Stored.stored r.inner, fun r h => Stored.stored_le r.inner h⟩
instance {R V I : Type} [Region R V I] [RegionAux R] [HeapInv R] [Stored R] : Stored (OptionRegion R) :=
  ⟨fun r => Stored.stored r.inner, fun r h => Stored.stored_le r.inner h⟩
instance {T VT IT E VE IE : Type} [Region T VT IT] [Region E VE IE] [RegionAux T] [RegionAux E]
    [HeapInv T] [HeapInv E] [Stored T] [Stored E] : Stored (ResultRegion T E) where
  stored r := Stored.stored r.oks + Stored.stored r.errs
  stored_le r h := by
    rw [result_used]; exact Nat.add_le_add (Stored.stored_le r.oks h.1) (Stored.stored_le r.errs h.2)
instance : Stored TupleNil := ⟨fun _ => 0, fun _ _ => Nat.zero_le _⟩
instance {A VA IA B VB IB : Type} [Region A VA IA] [Region B VB IB] [RegionAux A] [RegionAux B]
    [HeapInv A] [HeapInv B] [Stored A] [Stored B] : Stored (TupleCons A B) where
  stored r := Stored.stored r.head + Stored.stored r.tail
  stored_le r h := by
    rw [tuple_used]; exact Nat.add_le_add (Stored.stored_le r.head h.1) (Stored.stored_le r.tail h.2)
instance {R V I : Type} [Region R V I] [HasEqv V] [RegionAux R] [IndexSize I] [HeapInv R] [Stored R] :
    Stored (CollapseSequence R I) :=
  ⟨fun r => Stored.stored r.inner, fun r h => Stored.stored_le r.inner h⟩
instance {R V I O : Type} [Region R V I] [IdxCont O I] [RegionAux R] [IdxAux O] [HeapInv R] [IdxHeapInv O]
    [Stored R] [IdxStored O] : Stored (SliceRegion R O) where
  stored r := IdxStored.stored r.slices + Stored.stored r.inner
  stored_le r h := by
    rw [slice_used]; exact Nat.add_le_add (IdxStored.stored_le r.slices h.1) (Stored.stored_le r.inner h.2)
instance {R V O : Type} [Region R V (Nat × Nat)] [DenseRegion R] [IdxCont O Nat] [RegionAux R] [IdxAux O]
    [HeapInv R] [IdxHeapInv O] [Stored R] [IdxStored O] : Stored (ConsecPairs R O) where
  stored r := IdxStored.stored r.indices + Stored.stored r.inner
  stored_le r h := by
    rw [consec_used]; exact Nat.add_le_add (IdxStored.stored_le r.indices h.2.1) (Stored.stored_le r.inner h.1)
instance {R V I S : Type} [Region R V I] [IdxCont S I] [RegionAux R] [IdxAux S] [HeapInv R] [IdxHeapInv S]
    [Stored R] [IdxStored S] : Stored (FlatStack R S) where
  stored fs := Stored.stored fs.region + IdxStored.stored fs.indices
  stored_le fs h := by
    rw [stack_used]; exact Nat.add_le_add (Stored.stored_le fs.region h.1) (IdxStored.stored_le fs.indices h.2)
instance {R V I O : Type} [Region R V I] [IdxCont O Nat] [RegionAux R] [IdxAux O] [ElemSize I]
    [HeapInv R] [IdxHeapInv O] [Stored R] [IdxStored O] : Stored (ColumnsRegion R I O) where
  stored r := r.cols.length * RegionAux.selfSize R + (r.cols.map Stored.stored).sum + Stored.stored r.indices
  stored_le r h := by
    rw [columns_used]
    have h1 := Stored.stored_le r.indices h.1
    have h2 : (r.cols.map Stored.stored).sum ≤ (r.cols.map totalUsed).sum :=
      sum_map_le fun c hc => Stored.stored_le c (h.2 c hc)
    omega
instance : Stored Huff.Container := ⟨fun _ => 0, fun _ _ => Nat.zero_le _⟩
instance : Stored HuffU8 := ⟨fun _ => 0, fun _ _ => Nat.zero_le _⟩
instance : Stored Codec.Region := ⟨fun r => r.inner.length, fun r _ => Nat.le_of_eq (codec_used r).symm⟩

end FC
