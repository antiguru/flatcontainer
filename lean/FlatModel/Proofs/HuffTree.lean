import FlatModel.Model.Huffman
import FlatModel.Proofs.HuffOpt
import FlatModel.Proofs.HuffCanon
import FlatModel.Proofs.Pointwise
/-! The modelled tree builder (`popMax`, `buildTree`, `levelsOf`) performs a greedy Huffman run. -/
namespace FC.Huff
open Opt (HuffRel)

/-- the binary tree that the node array of `buildTree` represents (`RepN`) -/
inductive T where
  | leaf (s : Nat)
  | node (l r : T)
deriving Repr, DecidableEq

namespace T

def weight (w : Nat → Nat) : T → Nat
  | leaf s => w s
  | node l r => weight w l + weight w r

/-- `(depth, symbol)` of every leaf, the root being at depth `d`, in the order in which `levelsOf` reports them
(right subtree first) -/
def depths : T → Nat → List (Nat × Nat)
  | leaf s, d => [(d, s)]
  | node l r, d => depths r (d + 1) ++ depths l (d + 1)

def syms : T → List Nat
  | leaf s => [s]
  | node l r => syms r ++ syms l

def size : T → Nat
  | leaf _ => 1
  | node l r => size l + size r + 1

def costAt (w : Nat → Nat) : T → Nat → Nat
  | leaf s, d => w s * d
  | node l r, d => costAt w l (d + 1) + costAt w r (d + 1)

def cost (w : Nat → Nat) (t : T) : Nat := costAt w t 0

theorem depths_map_snd (t : T) : ∀ d, (t.depths d).map Prod.snd = t.syms := by
  induction t with
  | leaf s => intro d; rfl
  | node l r ihl ihr => intro d; simp [depths, syms, ihl, ihr]

theorem syms_length_pos (t : T) : 0 < t.syms.length := by
  cases t <;> simp [syms]
  rename_i l r
  have := syms_length_pos r; omega

theorem size_add_one_eq (t : T) : t.size + 1 = 2 * t.syms.length := by
  induction t with
  | leaf s => rfl
  | node l r ihl ihr => simp [size, syms]; omega

theorem depths_ge (t : T) : ∀ d, ∀ p ∈ t.depths d, d ≤ p.1 := by
  induction t with
  | leaf s => intro d p hp; simp [depths] at hp; subst hp; exact le_refl _
  | node l r ihl ihr =>
    intro d p hp
    simp only [depths, List.mem_append] at hp
    rcases hp with hp | hp
    · have := ihr _ p hp; omega
    · have := ihl _ p hp; omega

theorem depths_ne_nil (t : T) (d : Nat) : t.depths d ≠ [] := by
  induction t generalizing d with
  | leaf s => simp [depths]
  | node l r ihl _ => simp [depths, ihl]

theorem costAt_eq_sum (w : Nat → Nat) (t : T) : ∀ d, t.costAt w d = ((t.depths d).map fun p => w p.2 * p.1).sum := by
  induction t with
  | leaf s => intro d; simp [costAt, depths]
  | node l r ihl ihr => intro d; simp [costAt, depths, ihl, ihr]; omega

theorem costAt_succ (w : Nat → Nat) (t : T) : ∀ d, t.costAt w (d + 1) = t.costAt w d + t.weight w := by
  induction t with
  | leaf s => intro d; simp [costAt, weight]; ring
  | node l r ihl ihr => intro d; simp only [costAt, weight, ihl (d + 1), ihr (d + 1)]; omega

theorem cost_node (w : Nat → Nat) (l r : T) :
    (node l r).cost w = l.cost w + r.cost w + l.weight w + r.weight w := by
  simp only [cost, costAt, costAt_succ]; omega

@[simp] theorem cost_leaf (w : Nat → Nat) (s : Nat) : (leaf s).cost w = 0 := by simp [cost, costAt]

theorem tree_kraft_eq (M : Nat) (t : T) : ∀ d, (∀ p ∈ t.depths d, p.1 ≤ M) → lsum M (t.depths d) = 2 ^ (M - d) := by
  induction t with
  | leaf s => intro d _; simp [depths]
  | node l r ihl ihr =>
    intro d h
    simp only [depths, List.mem_append] at h
    have hr := ihr (d + 1) (fun p hp => h p (Or.inl hp))
    have hl := ihl (d + 1) (fun p hp => h p (Or.inr hp))
    have hd : d + 1 ≤ M := by
      obtain ⟨p, hp⟩ := List.exists_mem_of_ne_nil _ (depths_ne_nil l (d + 1))
      have := depths_ge l _ p hp
      have := h p (Or.inr hp)
      omega
    simp only [depths, lsum, List.map_append, List.sum_append] at hr hl ⊢
    rw [hr, hl]
    have : M - d = (M - (d + 1)) + 1 := by omega
    rw [this, pow_succ]; ring

end T

theorem popMax_eq_none {h : List (Int × Node)} : popMax h = none ↔ h = [] := by
  cases h with
  | nil => simp [popMax]
  | cons x xs =>
    simp only [popMax, reduceCtorEq, iff_false]
    split
    · simp
    · split <;> simp

theorem popMax_perm {h : List (Int × Node)} {m rest} : popMax h = some (m, rest) → h.Perm (m :: rest) := by
  fun_induction popMax h generalizing m rest with
  | case1 => nofun
  | case2 x xs hn => rintro ⟨⟩; rw [popMax_eq_none.mp hn]
  | case3 x xs m' rest' hs hlt ih => rintro ⟨⟩; exact (ih hs).cons x
  | case4 x xs m' rest' hs hlt ih => rintro ⟨⟩; exact ((ih hs).cons x).trans (.swap _ _ _)

theorem popMax_length {h : List (Int × Node)} {m rest} (hp : popMax h = some (m, rest)) : h.length = rest.length + 1 := by
  simpa using (popMax_perm hp).length_eq

theorem Node.lt_trans {a b c : Node} (h1 : a.lt b = true) (h2 : b.lt c = true) : a.lt c = true := by
  cases a <;> cases b <;> cases c <;> simp [Node.lt] at h1 h2 ⊢ <;> omega

theorem Node.lt_irrefl (a : Node) : a.lt a = false := by
  cases a <;> simp [Node.lt]

theorem entryLt_trans {x y z : Int × Node} (h1 : entryLt x y = true) (h2 : entryLt y z = true) : entryLt x z = true := by
  simp only [entryLt, Bool.or_eq_true, decide_eq_true_eq, Bool.and_eq_true, beq_iff_eq] at h1 h2 ⊢
  rcases h1 with h1 | ⟨h1, h1'⟩ <;> rcases h2 with h2 | ⟨h2, h2'⟩
  · left; omega
  · left; omega
  · left; omega
  · right; exact ⟨by omega, Node.lt_trans h1' h2'⟩

theorem entryLt_asymm {x y : Int × Node} (h : entryLt x y = true) : entryLt y x = false := by
  cases hyx : entryLt y x with
  | false => rfl
  | true => simpa [entryLt, Node.lt_irrefl] using entryLt_trans h hyx

theorem popMax_max {h : List (Int × Node)} {m rest} : popMax h = some (m, rest) → ∀ x ∈ rest, entryLt m x = false := by
  fun_induction popMax h generalizing m rest with
  | case1 => nofun
  | case2 x xs hn => rintro ⟨⟩; simp
  | case3 x xs m' rest' hs hlt ih =>
    rintro ⟨⟩
    refine List.forall_mem_cons.2 ⟨entryLt_asymm hlt, fun y hy => ?_⟩
    -- `m' < x < y` would contradict the maximality of `m'` in `xs`
    cases hxy : entryLt x y with
    | false => rfl
    | true => rw [← ih hs y hy, entryLt_trans hlt hxy]
  | case4 x xs m' rest' hs hlt ih => rintro ⟨⟩; exact List.forall_mem_cons.2 ⟨by simpa using hlt, ih hs⟩

theorem popMax_max_fst {h : List (Int × Node)} {m rest} (hp : popMax h = some (m, rest)) : ∀ x ∈ rest, x.1 ≤ m.1 := by
  intro x hx
  have := popMax_max hp x hx
  simp only [entryLt, Bool.or_eq_false_iff, decide_eq_false_iff_not] at this
  omega

inductive RepN (tree : Array Node) : Node → T → Prop
  | leaf (s : Nat) : RepN tree (.leaf s) (.leaf s)
  | fork {l r : Nat} {nl nr : Node} {tl tr : T} : tree[l]? = some nl → tree[r]? = some nr →
      RepN tree nl tl → RepN tree nr tr → RepN tree (.fork l r) (.node tl tr)

theorem getElem?_push_of_some {tree : Array Node} {i : Nat} {n : Node} (x : Node) (h : tree[i]? = some n) :
    (tree.push x)[i]? = some n := by
  obtain ⟨hi, h'⟩ := Array.getElem?_eq_some_iff.mp h
  rw [Array.getElem?_push_lt hi, h']

theorem RepN.push {tree : Array Node} {n : Node} {t : T} (x : Node) (h : RepN tree n t) : RepN (tree.push x) n t := by
  induction h with
  | leaf s => exact .leaf s
  | fork hl hr _ _ ihl ihr => exact .fork (getElem?_push_of_some x hl) (getElem?_push_of_some x hr) ihl ihr

theorem getElem!_of_some {tree : Array Node} {i : Nat} {n : Node} (h : tree[i]? = some n) : tree[i]! = n := by
  obtain ⟨hi, rfl⟩ := Array.getElem?_eq_some_iff.mp h
  exact getElem!_pos tree i hi

theorem levelsOf_rep (tree : Array Node) : ∀ (t : T) (n : Node) (i lvl fuel : Nat) (rest acc : List (Nat × Nat)),
    tree[i]? = some n → RepN tree n t →
    levelsOf tree (fuel + t.size) ((i, lvl) :: rest) acc = levelsOf tree fuel rest (acc ++ t.depths lvl) := by
  intro t
  induction t with
  | leaf s =>
    intro n i lvl fuel rest acc hi hr
    cases hr
    simp only [T.size, T.depths]
    rw [levelsOf]
    simp only [getElem!_of_some hi]
  | node l r ihl ihr =>
    intro n i lvl fuel rest acc hi hr
    cases hr with
    | fork hl hr' rl rr =>
      have : fuel + (T.node l r).size = (fuel + l.size + r.size) + 1 := by simp [T.size]; omega
      rw [this, levelsOf]
      simp only [getElem!_of_some hi]
      rw [ihr _ _ _ _ _ _ hr' rr, ihl _ _ _ _ _ _ hl rl]
      simp [T.depths]

theorem levelsOf_nil (tree : Array Node) (fuel : Nat) (acc : List (Nat × Nat)) : levelsOf tree fuel [] acc = acc := by
  cases fuel <;> simp [levelsOf]

theorem levelsOf_root (tree : Array Node) (t : T) (n : Node) (i fuel : Nat) (hi : tree[i]? = some n) (hr : RepN tree n t)
    (hf : t.size ≤ fuel) : levelsOf tree fuel [(i, 0)] [] = t.depths 0 := by
  obtain ⟨k, rfl⟩ : ∃ k, fuel = k + t.size := ⟨fuel - t.size, by omega⟩
  rw [levelsOf_rep tree t n i 0 k [] [] hi hr, levelsOf_nil]; simp

/-- greedy Huffman runs on forests of trees: repeatedly join two trees of least weight (any tie-break);
`HuffT w ts t` says the run started from forest `ts` ends with the single tree `t` -/
inductive HuffT (w : Nat → Nat) : List T → T → Prop
  | single (t : T) : HuffT w [t] t
  | step {ts rest : List T} {a b t : T} : ts.Perm (a :: b :: rest) →
      (∀ x ∈ rest, a.weight w ≤ x.weight w ∧ b.weight w ≤ x.weight w) → a.weight w ≤ b.weight w →
      HuffT w (T.node a b :: rest) t → HuffT w ts t

theorem HuffT.huffRel {w : Nat → Nat} {ts : List T} {t : T} (h : HuffT w ts t) :
    ∃ c, HuffRel (ts.map (T.weight w)) c ∧ t.cost w = c + (ts.map (T.cost w)).sum := by
  induction h with
  | single t => exact ⟨0, HuffRel.single _, by simp⟩
  | @step ts rest a b t hperm hmin hab _ ih =>
    obtain ⟨c, hrel, hcost⟩ := ih
    refine ⟨c + a.weight w + b.weight w, ?_, ?_⟩
    · refine HuffRel.step (rest := rest.map (T.weight w)) (hperm.map _) (List.forall_mem_map.2 hmin) hab ?_
      simpa [T.weight] using hrel
    · have := (hperm.map (T.cost w)).sum_nat
      rw [hcost, this]
      simp only [List.map_cons, List.sum_cons, T.cost_node]
      omega

theorem HuffT.syms_perm {w : Nat → Nat} {ts : List T} {t : T} (h : HuffT w ts t) :
    t.syms.Perm (ts.flatMap T.syms) := by
  induction h with
  | single t => simp
  | @step ts rest a b t hperm _ _ _ ih =>
    refine ih.trans ?_
    refine List.Perm.trans ?_ (hperm.flatMap_right T.syms).symm
    simp only [List.flatMap_cons, T.syms, List.append_assoc]
    rw [← List.append_assoc, ← List.append_assoc]
    exact List.Perm.append_right _ List.perm_append_comm

def HeapRep (w : Nat → Nat) (tree : Array Node) (heap : List (Int × Node)) (ts : List T) : Prop :=
  List.Forall₂ (fun e t => e.1 = -((T.weight w t : Nat) : Int) ∧ RepN tree e.2 t) heap ts

theorem HeapRep.push {w tree heap ts} (x : Node) (h : HeapRep w tree heap ts) : HeapRep w (tree.push x) heap ts :=
  List.Forall₂.imp (fun _ _ hab => ⟨hab.1, hab.2.push x⟩) h

theorem HeapRep.pop {w tree heap ts c n rest} (hrep : HeapRep w tree heap ts)
    (hp : popMax heap = some ((c, n), rest)) :
    ∃ t ts', ts.Perm (t :: ts') ∧ c = -((t.weight w : Nat) : Int) ∧ RepN tree n t ∧ HeapRep w tree rest ts' ∧
      ∀ x ∈ ts', t.weight w ≤ x.weight w := by
  obtain ⟨_, hrep₁, hperm⟩ := List.perm_comp_forall₂ (popMax_perm hp).symm hrep
  obtain ⟨t, ts', ⟨hc, hr⟩, hrep', rfl⟩ := List.forall₂_cons_left_iff.mp hrep₁
  refine ⟨t, ts', hperm.symm, hc, hr, hrep', fun x hx => ?_⟩
  obtain ⟨e, he, hex, -⟩ := List.forall₂_mem_right hrep' x hx
  have := popMax_max_fst hp e he
  simp only at hc this; omega

theorem buildTree_nil (fuel : Nat) (tree : Array Node) : buildTree fuel [] tree = tree := by
  cases fuel <;> simp [buildTree, popMax]

theorem buildTree_fuel : ∀ (f1 f2 : Nat) (heap : List (Int × Node)) (tree : Array Node),
    heap.length ≤ f1 → heap.length ≤ f2 → buildTree f1 heap tree = buildTree f2 heap tree := by
  intro f1 f2 heap tree
  fun_induction buildTree f1 heap tree generalizing f2 with
  | case1 heap tree => intro h1 _; rw [List.eq_nil_of_length_eq_zero (l := heap) (by omega), buildTree_nil]
  | case2 heap tree fuel hp => intro _ _; rw [popMax_eq_none.mp hp, buildTree_nil]
  | case3 heap tree fuel c1 n1 heap1 hp hp2 =>
    intro _ h2
    obtain ⟨f2, rfl⟩ : ∃ k, f2 = k + 1 := ⟨f2 - 1, by have := popMax_length hp; omega⟩
    simp only [buildTree, hp, hp2]
  | case4 heap tree fuel c1 n1 heap1 hp c2 n2 heap2 hp2 fork ih =>
    intro h1 h2
    have := popMax_length hp; have := popMax_length hp2
    obtain ⟨f2, rfl⟩ : ∃ k, f2 = k + 1 := ⟨f2 - 1, by omega⟩
    simp only [buildTree, hp, hp2]
    exact ih f2 (by simp only [List.length_cons]; omega) (by simp only [List.length_cons]; omega)

theorem buildTree_spec (w : Nat → Nat) : ∀ (fuel : Nat) (heap : List (Int × Node)) (tree : Array Node) (ts : List T),
    heap.length ≤ fuel → heap ≠ [] → HeapRep w tree heap ts →
    ∃ t n, (buildTree fuel heap tree)[(buildTree fuel heap tree).size - 1]? = some n ∧
      RepN (buildTree fuel heap tree) n t ∧ HuffT w ts t := by
  intro fuel heap tree
  fun_induction buildTree fuel heap tree with
  | case1 heap tree => exact fun ts hlen hne _ => absurd (List.eq_nil_of_length_eq_zero (by omega)) hne
  | case2 heap tree fuel h1 => exact fun ts _ hne _ => absurd (popMax_eq_none.mp h1) hne
  | case3 heap tree fuel c1 n1 heap1 h1 h2 =>
    intro ts _ _ hrep
    obtain ⟨t, ts', hperm, -, hr, hrep', -⟩ := hrep.pop h1
    obtain rfl := popMax_eq_none.mp h2
    cases hrep'
    obtain rfl := List.perm_singleton.mp hperm
    exact ⟨t, n1, by simp, hr.push n1, .single t⟩
  | case4 heap tree fuel c1 n1 heap1 h1 c2 n2 heap2 h2 fork ih =>
    intro ts hlen _ hrep
    obtain ⟨a, ts1, hp1, hca, hra, hrep1, hmin1⟩ := hrep.pop h1
    obtain ⟨b, ts2, hp2, hcb, hrb, hrep2, hmin2⟩ := hrep1.pop h2
    have hrepNew : HeapRep w ((tree.push n1).push n2) ((c1 + c2, fork) :: heap2) (T.node a b :: ts2) := by
      refine List.Forall₂.cons ⟨by simp only [T.weight]; omega, ?_⟩ ((hrep2.push n1).push n2)
      exact .fork (getElem?_push_of_some n2 Array.getElem?_push_size)
        (by simpa using Array.getElem?_push_size (xs := tree.push n1) (x := n2))
        ((hra.push n1).push n2) ((hrb.push n1).push n2)
    have hlen' : ((c1 + c2, fork) :: heap2).length ≤ fuel := by
      have := popMax_length h1; have := popMax_length h2
      simp only [List.length_cons]; omega
    obtain ⟨t, n, hlast, hr, hT⟩ := ih _ hlen' (by simp) hrepNew
    exact ⟨t, n, hlast, hr, .step (hp1.trans (hp2.cons a))
      (fun x hx => ⟨hmin1 x (hp2.mem_iff.mpr (List.mem_cons_of_mem _ hx)), hmin2 x hx⟩)
      (hmin1 b (hp2.mem_iff.mpr List.mem_cons_self)) hT⟩

end FC.Huff
