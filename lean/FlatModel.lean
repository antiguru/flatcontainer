import FlatModel.Generated.Catalogue
import FlatModel.Generated.Covered
import FlatModel.Generated.CoveredOps
import FlatModel.Generated.CoveredSer
import FlatModel.Generated.CoveredHeap
import FlatModel.Generated.CoveredItems
import FlatModel.Generated.SourceFacts
import FlatModel.Props.C01
import FlatModel.Props.C03
import FlatModel.Props.C04
import FlatModel.Props.C05
import FlatModel.Props.C06
import FlatModel.Proofs.HuffExamples
import FlatModel.Props.C06Region
import FlatModel.Props.C07
import FlatModel.Props.C07MG
import FlatModel.Props.C09
import FlatModel.Props.C11
import FlatModel.Props.C12
import FlatModel.Props.C13
import FlatModel.Props.C14
import FlatModel.Props.C14b
import FlatModel.Props.C14c
import FlatModel.Props.C15
import FlatModel.Props.C15b
import FlatModel.Props.C16
import FlatModel.Props.C17
import FlatModel.Props.C18
import FlatModel.Props.C19
import FlatModel.Props.C19Stack
import FlatModel.Props.C20
import FlatModel.Props.Universe
import FlatModel.Generated.CoveredUniverse
import FlatModel.Props.UniverseOps
import FlatModel.Props.UniverseSer
import FlatModel.Props.UniverseHeap
import FlatModel.Generated.CoveredUniverseOps
import FlatModel.Props.C17Grows
import FlatModel.Props.UniverseGrows
